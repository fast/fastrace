import FastraceModel.Model.Spsc

/-!
The sender side of `Model/Spsc.lean` as sequences.  `ring ++ overflow list` only ever grows at
the end, by exactly what the channel took (`*_seq`); whatever an overflow list holds afterwards it held
before, or is the forced value (`*_sub`).  Weights, membership and per-thread order in the system-level
invariants all follow from these.
-/
namespace Fastrace
namespace Ring
variable {α : Type}

theorem push_seq {r r' : Ring α} {x : α} (h : r.push x = some r') : r'.q = r.q ++ [x] := by
  unfold push at h
  split at h
  · cases h; rfl
  · cases h

theorem replay_seq (r : Ring α) (pend : List α) : (r.replay pend).1.q ++ (r.replay pend).2 = r.q ++ pend := by
  induction pend generalizing r with
  | nil => simp [replay]
  | cons x xs ih =>
    simp only [replay]
    cases hpush : r.push x with
    | none => rfl
    | some r' => rw [ih r', push_seq hpush, List.append_assoc]; rfl

theorem send_seq (r : Ring α) (pend : List α) (v : α) :
    (r.send pend v).1.q ++ (r.send pend v).2.1 = r.q ++ pend ++ (if (r.send pend v).2.2 then [v] else []) := by
  have h := replay_seq r pend
  rcases hrp : r.replay pend with ⟨r1, rest⟩
  rw [hrp] at h
  cases rest with
  | nil =>
    cases hpush : r1.push v with
    | none => simpa [send, hrp, hpush] using h
    | some r2 => simp [send, hrp, hpush, push_seq hpush, ← h]
  | cons x xs => simpa [send, hrp] using h

theorem send_sub (r : Ring α) (pend : List α) (v : α) :
    ∀ y ∈ (r.send pend v).1.q ++ (r.send pend v).2.1, y ∈ r.q ++ pend ++ [v] := by
  rw [send_seq]
  intro y hy
  rcases List.mem_append.mp hy with hy | hy
  · exact List.mem_append_left _ hy
  · split at hy
    · exact List.mem_append_right _ hy
    · cases hy

theorem forceSend_seq (r : Ring α) (pend : List α) (v : α) :
    (r.forceSend pend v).1.q ++ (r.forceSend pend v).2 = r.q ++ pend ++ [v] := by
  have h := replay_seq r pend
  rcases hrp : r.replay pend with ⟨r1, rest⟩
  rw [hrp] at h
  cases rest with
  | nil =>
    cases hpush : r1.push v with
    | none => simp [forceSend, hrp, hpush, ← h]
    | some r2 => simp [forceSend, hrp, hpush, push_seq hpush, ← h]
  | cons x xs => simp [forceSend, hrp, ← h]

theorem replay_sub (r : Ring α) (pend : List α) : ∀ c ∈ (r.replay pend).2, c ∈ pend := by
  induction pend generalizing r with
  | nil => simp [replay]
  | cons x xs ih =>
    simp only [replay]
    cases r.push x with
    | none => exact fun c hc => hc
    | some r' => exact fun c hc => List.mem_cons_of_mem _ (ih r' c hc)

/-- `send` never parks its value -/
theorem send_pending_sub (r : Ring α) (pend : List α) (v : α) : ∀ c ∈ (r.send pend v).2.1, c ∈ pend := by
  have h := replay_sub r pend
  unfold send
  generalize r.replay pend = rr at h ⊢
  obtain ⟨r1, rest⟩ := rr
  cases rest with
  | nil => dsimp only; split <;> simp
  | cons x xs => exact h

theorem forceSend_pending_sub (r : Ring α) (pend : List α) (v : α) :
    ∀ c ∈ (r.forceSend pend v).2, c ∈ pend ∨ c = v := by
  have h := replay_sub r pend
  unfold forceSend
  generalize r.replay pend = rr at h ⊢
  obtain ⟨r1, rest⟩ := rr
  cases rest with
  | nil => dsimp only; split <;> simp
  | cons x xs =>
    intro c hc
    rcases List.mem_append.mp hc with hc | hc
    · exact .inl (h c hc)
    · exact .inr (List.mem_singleton.mp hc)

/-- `Sender::drop`: every parked value ends up in the ring or is lost, once -/
theorem senderDrop_perm (r : Ring α) (pend : List α) :
    ((r.senderDrop pend).q ++ r.senderDropLost pend).Perm (r.q ++ pend) := by
  unfold senderDrop
  induction pend generalizing r with
  | nil => simp [senderDropLost]
  | cons x xs ih =>
    simp only [List.foldl, senderDropLost]
    cases hpush : r.push x with
    | none => exact ((List.perm_middle).trans ((ih r).cons x)).trans List.perm_middle.symm
    | some r' =>
      have := ih r'
      rwa [push_seq hpush, List.append_assoc] at this

theorem senderDropLost_sub (r : Ring α) (pend : List α) : ∀ c ∈ r.senderDropLost pend, c ∈ pend := by
  induction pend generalizing r with
  | nil => intro c hc; cases hc
  | cons x xs ih =>
    intro c hc
    simp only [senderDropLost] at hc
    cases hp : r.push x with
    | none =>
      rw [hp] at hc
      rcases List.mem_cons.mp hc with rfl | hc
      · exact List.mem_cons_self
      · exact List.mem_cons_of_mem _ (ih r c hc)
    | some r' =>
      rw [hp] at hc
      exact List.mem_cons_of_mem _ (ih r' c hc)

end Ring
end Fastrace
