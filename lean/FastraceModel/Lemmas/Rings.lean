import FastraceModel.Lemmas.Assoc

/-!
The receivers of the command channels as one list.  `SPSC_RXS` is `Sys.rxs` between cycles; while a drain is in
progress the collector has taken the receivers out and holds them in `todo` (not yet visited) and `kept` (visited and
retained).  `Sys.rings` is every receiver the collector knows, `Sys.popped` what the cycle in progress has popped so
far; `setRing` (`Sys.setRing_ind`), `register` and a collector step (`Sys.cycStep_drain`) act on the two in one of a few
ways, and the channel invariants only need to know what those do.  (`Prov` also constrains the registry `rxs` while a
drain has taken the receivers out of it, so `Flight.register` and `Flight.setRing` go by where the ring is put.)
-/
namespace Fastrace

def Sys.rings (s : Sys) : List (Nat × Ring Cmd) :=
  match s.cyc with
  | none => s.rxs
  | some cs => cs.todo ++ cs.kept

def Sys.popped (s : Sys) : List Cmd :=
  match s.cyc with
  | none => []
  | some cs => cs.buf ++ cs.buf2

theorem Sys.ringOf_eq (s : Sys) (t : Nat) : s.ringOf t = natGet s.rings t := by
  unfold Sys.ringOf Sys.rings
  cases s.cyc with
  | none => rfl
  | some cs => exact (natGet_append _ _ _).symm

/-- where `setRing` puts the ring: into the registry, or — during a cycle — into whichever of `todo` / `kept` holds the
    thread's receiver, so that in the two together it is replaced where it stands; nowhere, if neither does -/
theorem Sys.setRing_ind {P : Sys → Prop} (s : Sys) (t : Nat) (r : Ring Cmd)
    (hrxs : s.cyc = none → P { s with rxs := natSet s.rxs t r })
    (hcyc : ∀ cs todo kept, s.cyc = some cs → todo ++ kept = natSet (cs.todo ++ cs.kept) t r →
      P { s with cyc := some { cs with todo := todo, kept := kept } })
    (hnone : s.ringOf t = none → P s) : P (s.setRing t r) := by
  unfold Sys.setRing
  cases hc : s.cyc with
  | none => have := hrxs hc; rw [hc] at this; exact this
  | some cs =>
    refine iteInduction (fun h1 => hcyc cs _ _ hc (natSet_append_left h1 _ _).symm) fun h1 => iteInduction
      (fun _ => hcyc cs _ _ hc (natSet_append_right (Option.not_isSome_iff_eq_none.mp h1) _ _).symm) fun h2 => hnone ?_
    unfold Sys.ringOf
    rw [hc]
    dsimp only
    rw [Option.not_isSome_iff_eq_none.mp h1, Option.not_isSome_iff_eq_none.mp h2]; rfl

theorem Sys.setRing_frame (s : Sys) (t : Nat) (r : Ring Cmd) :
    s.setRing t r = { s with rxs := (s.setRing t r).rxs, cyc := (s.setRing t r).cyc } :=
  Sys.setRing_ind (P := fun x => x = { s with rxs := x.rxs, cyc := x.cyc }) s t r (fun _ => rfl) (fun _ _ _ _ _ => rfl)
    fun _ => rfl

theorem Sys.popped_setRing (s : Sys) (t : Nat) (r : Ring Cmd) : (s.setRing t r).popped = s.popped :=
  Sys.setRing_ind (P := fun x => x.popped = s.popped) s t r (fun _ => rfl)
    (fun cs _ _ hc _ => by unfold Sys.popped; rw [hc]) fun _ => rfl

theorem Sys.rings_setRing {s : Sys} {t : Nat} {r : Ring Cmd} (h : s.ringOf t = some r) (r' : Ring Cmd) :
    (s.setRing t r').rings = natSet s.rings t r' := by
  refine Sys.setRing_ind (P := fun x => x.rings = natSet s.rings t r') s t r' (fun hc => ?_) (fun cs _ _ hc e => ?_)
    (fun hn => nomatch hn.symm.trans h) <;> unfold Sys.rings <;> rw [hc]
  exact e

/-- first use of a thread's channel: the thread is marked and an empty receiver joins the registry, or — when the
    cycle in progress is past its drain — the retained receivers -/
theorem Sys.register_where {s s' : Sys} {t : Nat} (h : s.register t = some s') (hn : (s.th t).registered = false) :
    (s.cyc = none ∧
      s' = { s.setTh t { s.th t with registered := true } with rxs := s.rxs ++ [(t, Ring.new Consts.ringCap)] }) ∨
    ∃ cs, s.cyc = some cs ∧ s' = { s.setTh t { s.th t with registered := true } with
      cyc := some { cs with kept := cs.kept ++ [(t, Ring.new Consts.ringCap)] } } := by
  unfold Sys.register at h
  rw [hn, if_neg Bool.false_ne_true] at h
  cases hc : s.cyc with
  | none => rw [hc] at h; exact .inl ⟨rfl, (Option.some.inj h).symm⟩
  | some cs =>
    rw [hc] at h
    dsimp only at h
    split at h
    · cases h
    · exact .inr ⟨cs, rfl, (Option.some.inj h).symm⟩

/-- whichever it is: in the list of all receivers the new one comes last -/
theorem Sys.register_cases {s s' : Sys} {t : Nat} (h : s.register t = some s') :
    s' = s ∨ ((s.th t).registered = false ∧
      s' = { (s.setTh t { s.th t with registered := true }) with rxs := s'.rxs, cyc := s'.cyc } ∧
      s'.rings = s.rings ++ [(t, Ring.new Consts.ringCap)] ∧ s'.popped = s.popped) := by
  cases hn : (s.th t).registered with
  | true => unfold Sys.register at h; rw [hn, if_pos rfl] at h; exact .inl (Option.some.inj h).symm
  | false =>
    refine .inr ⟨rfl, ?_⟩
    unfold Sys.rings Sys.popped
    rcases Sys.register_where h hn with ⟨hc, rfl⟩ | ⟨cs, hc, rfl⟩ <;> dsimp only [Sys.setTh] <;> rw [hc]
    · exact ⟨rfl, rfl, rfl⟩
    · exact ⟨rfl, (List.append_assoc ..).symm, rfl⟩

/-- how one collector step changes the receivers: thread `t`'s ring is emptied, its content `q` was
    popped; or — with nothing popped — the first receiver moves to the back (the abandoned check retains it: from
    `todo` to the end of `kept`), or is dropped, or nothing changes.  A receiver is dropped only with an empty ring
    (the D1 repair: the abandoned check is followed by a second pop): conservation, per-thread order and provenance
    all rest on that premise. -/
inductive RingsStep (t : Nat) : List (Nat × Ring Cmd) → List Cmd → List (Nat × Ring Cmd) → Prop
  | pop (l1 : List (Nat × Ring Cmd)) (r : Ring Cmd) (l2 : List (Nat × Ring Cmd)) :
      RingsStep t (l1 ++ (t, r) :: l2) r.q (l1 ++ (t, { r with q := [] }) :: l2)
  | rotate (r : Ring Cmd) (l : List (Nat × Ring Cmd)) : RingsStep t ((t, r) :: l) [] (l ++ [(t, r)])
  | drop (r : Ring Cmd) (l : List (Nat × Ring Cmd)) : r.q = [] → RingsStep t ((t, r) :: l) [] l
  | same (l : List (Nat × Ring Cmd)) : RingsStep t l [] l

/-- once the first drain pass is over (second pass, report) no receiver is left unvisited: `todo` is empty, every
    receiver the collector holds is in `kept` -/
def CycWF (s : Sys) : Prop :=
  ∀ cs, s.cyc = some cs → (cs.phase = .atRx2 ∨ cs.phase = .atReport) → cs.todo = []

@[simp] theorem CycState.afterFirst_fields (cs : CycState) :
    cs.afterFirst.1.todo = cs.todo ∧ cs.afterFirst.1.kept = cs.kept ∧ cs.afterFirst.1.buf = cs.buf ∧
    cs.afterFirst.1.buf2 = cs.buf2 := by
  unfold CycState.afterFirst; split <;> exact ⟨rfl, rfl, rfl, rfl⟩

/-- **a collector step before the report**: the drain state is replaced, what was popped from one
    thread's ring is logged, and the receivers and the drain buffers change as `RingsStep` says.
    The last clause keeps `CycWF`.  Where nothing is popped the thread named is immaterial (`logDrained t []` changes
    nothing), and the proof names thread 0. -/
theorem Sys.cycStep_drain {s : Sys} {cs : CycState} (hc : s.cyc = some cs) (hph : cs.phase ≠ .atReport) :
    ∃ cs' t q ph, s.cycStep = ({ s.logDrained t q with cyc := some cs' }, .phase ph) ∧
      RingsStep t (cs.todo ++ cs.kept) q (cs'.todo ++ cs'.kept) ∧
      (cs'.buf ++ cs'.buf2).Perm (cs.buf ++ cs.buf2 ++ q) ∧
      ((cs.phase = .atRx2 → cs.todo = []) → (cs'.phase = .atRx2 ∨ cs'.phase = .atReport) → cs'.todo = []) := by
  -- the case analysis runs on `P s.cycStep` for a variable `P`: on the statement itself every `split` would rewrite the
  -- three clauses about `cs'` as well, which is much slower to check
  suffices key : ∀ P : Sys × Obs → Prop, (∀ cs' t q ph, RingsStep t (cs.todo ++ cs.kept) q (cs'.todo ++ cs'.kept) →
      (cs'.buf ++ cs'.buf2).Perm (cs.buf ++ cs.buf2 ++ q) →
      ((cs.phase = .atRx2 → cs.todo = []) → (cs'.phase = .atRx2 ∨ cs'.phase = .atReport) → cs'.todo = []) →
      P ({ s.logDrained t q with cyc := some cs' }, .phase ph)) → P s.cycStep by
    generalize s.cycStep = x at key ⊢
    apply key
    exact fun cs' t q ph h1 h2 h3 => ⟨cs', t, q, ph, rfl, h1, h2, h3⟩
  intro P key
  unfold Sys.cycStep
  rw [hc]
  dsimp only
  have perm : ∀ q : List Cmd, (cs.buf ++ q ++ cs.buf2).Perm (cs.buf ++ cs.buf2 ++ q) := fun q => by
    rw [List.append_assoc, List.append_assoc]; exact List.perm_append_comm.append_left _
  split
  · exact absurd ‹cs.phase = .atReport› hph
  · -- second pass
    next hph2 =>
    split
    · exact key _ 0 [] _ (.same _) (by simp) fun h _ => h hph2
    · next t rest _ =>
      have hpop : RingsStep t (cs.todo ++ cs.kept) ((natGet cs.kept t).getD (Ring.new Consts.ringCap)).q
          (cs.todo ++ if (natGet cs.kept t).isSome then
            natSet cs.kept t { (natGet cs.kept t).getD (Ring.new Consts.ringCap) with q := [] } else cs.kept) := by
        cases hg : natGet cs.kept t with
        | none => exact .same _
        | some r0 =>
          obtain ⟨l1, l2, e1, e2⟩ := natSet_of_natGet hg { r0 with q := [] }
          dsimp only [Option.isSome_some, Option.getD_some]
          rw [if_pos rfl, e2, e1, ← List.append_assoc, ← List.append_assoc]
          exact .pop _ r0 l2
      split
      · exact key _ t _ _ hpop (by simp) fun h _ => h hph2
      · exact key _ t _ _ hpop (by simp) fun h _ => h hph2
  · -- the first pass is over
    have htodo : cs.todo = [] := by assumption
    exact key cs.afterFirst.1 0 [] cs.afterFirst.2 (by simpa using .same _) (by simp) fun _ _ => by simpa using htodo
  · -- first pass: the ring at the head of `todo` is popped
    next t r rest _ htodo =>
    refine key _ t r.q _ ?_ (perm _) fun _ hp => by rcases hp with hp | hp <;> cases hp
    rw [htodo]; exact .pop [] r _
  · -- the abandoned check
    next t r rest _ htodo =>
    split
    · -- the producer is alive: the receiver is retained
      have hr : RingsStep t (cs.todo ++ cs.kept) [] (rest ++ (cs.kept ++ [(t, r)])) := by
        rw [htodo, ← List.append_assoc]; exact .rotate r _
      split
      · exact key (CycState.afterFirst _).1 t [] (CycState.afterFirst _).2 (by simpa using hr) (by simp) fun _ _ => by simp
      · exact key _ t [] _ hr (by simp) fun _ hp => by rcases hp with hp | hp <;> cases hp
    · split
      · -- abandoned and still empty: the receiver is removed
        next hq =>
        have hr : RingsStep t (cs.todo ++ cs.kept) [] (rest ++ cs.kept) := by rw [htodo]; exact .drop r _ hq
        split
        · exact key (CycState.afterFirst _).1 t [] (CycState.afterFirst _).2 (by simpa using hr) (by simp) fun _ _ => by simp
        · exact key _ t [] _ hr (by simp) fun _ hp => by rcases hp with hp | hp <;> cases hp
      · -- abandoned, but the re-check finds commands: they are popped like any others
        refine key _ t r.q _ ?_ (perm _) fun _ hp => by rcases hp with hp | hp <;> cases hp
        rw [htodo]; exact .pop [] r _

theorem drainAll_kept (rxs : List (Nat × Ring Cmd)) :
    (drainAll rxs).1 = (rxs.filter (·.2.producerAlive)).map fun e => (e.1, { e.2 with q := [] }) := by
  induction rxs with
  | nil => rfl
  | cons e tl ih =>
    rw [List.filter_cons, apply_ite (List.map _), List.map_cons, ← ih]
    rfl

theorem drainAll_buf (rxs : List (Nat × Ring Cmd)) : (drainAll rxs).2 = rxs.flatMap (·.2.q) := by
  induction rxs with
  | nil => rfl
  | cons hd tl ih => exact congrArg (hd.2.q ++ ·) ih

theorem mem_drainAll_kept {rxs : List (Nat × Ring Cmd)} {e : Nat × Ring Cmd} (he : e ∈ (drainAll rxs).1) :
    e.2.producerAlive = true ∧ e.2.q = [] := by
  rw [drainAll_kept] at he
  obtain ⟨x, hx, rfl⟩ := List.mem_map.mp he
  exact ⟨(List.mem_filter.mp hx).2, rfl⟩

/-- the start of a drain: refused while a cycle is in progress; otherwise the collector takes the receivers out of the
    registry (straight to the report when there is none) -/
theorem Sys.cycBegin_cases (s : Sys) :
    (∃ w, s.cycBegin = (s, .badOp w)) ∨
    ∃ ph p, s.cyc = none ∧ (ph = .atRx ∨ ph = .atReport ∧ s.rxs = []) ∧
      s.cycBegin = ({ s with cyc := some { phase := ph, todo := s.rxs, kept := [], buf := [] } }, .phase p) := by
  unfold Sys.cycBegin
  cases hc : s.cyc with
  | some cs => exact .inl ⟨_, rfl⟩
  | none =>
    dsimp only
    cases hr : s.rxs with
    | nil => exact .inr ⟨_, _, rfl, .inr ⟨rfl, rfl⟩, rfl⟩
    | cons _ _ => exact .inr ⟨_, _, rfl, .inl rfl, rfl⟩

theorem Sys.cycBegin_frame (s : Sys) : ∃ c, s.cycBegin.1 = { s with cyc := c } := by
  rcases s.cycBegin_cases with ⟨w, e⟩ | ⟨ph, p, -, -, e⟩ <;> rw [e]
  · exact ⟨s.cyc, rfl⟩
  · exact ⟨_, rfl⟩

theorem Sys.cycStep_none {s : Sys} (hc : s.cyc = none) : s.cycStep = (s, .badOp "no cycle in progress") := by
  unfold Sys.cycStep; rw [hc]

theorem Sys.cycStep_report {s : Sys} {cs : CycState} (hc : s.cyc = some cs) (hph : cs.phase = .atReport) :
    s.cycStep = ((s.finishCycleP cs.kept cs.buf cs.buf2).1, .report (s.finishCycleP cs.kept cs.buf cs.buf2).2) := by
  simp only [Sys.cycStep, hc, hph]

/-- a collector step is the report, or moves the drain along: then only the drain state and the log of
    what was popped change, and the answer names a phase (or refuses: no cycle in progress) -/
theorem Sys.cycStep_cases (s : Sys) :
    (∃ cs, s.cyc = some cs ∧
      s.cycStep = ((s.finishCycleP cs.kept cs.buf cs.buf2).1, .report (s.finishCycleP cs.kept cs.buf cs.buf2).2)) ∨
    ∃ cyc' d o, s.cycStep = ({ s with cyc := cyc', g := { s.g with drainedBy := d } }, o) ∧
      ((∃ p, o = .phase p) ∨ ∃ w, o = .badOp w) := by
  cases hc : s.cyc with
  | none => exact .inr ⟨none, s.g.drainedBy, _, by rw [Sys.cycStep_none hc, ← hc], .inr ⟨_, rfl⟩⟩
  | some cs =>
    by_cases hph : cs.phase = .atReport
    · exact .inl ⟨cs, rfl, Sys.cycStep_report hc hph⟩
    · obtain ⟨cs', t, q, ph, e, _⟩ := Sys.cycStep_drain hc hph
      exact .inr ⟨some cs', _, _, e, .inl ⟨ph, rfl⟩⟩

theorem Sys.cycStep_obs (s : Sys) :
    (∃ r, s.cycStep.2 = .report r) ∨ (∃ p, s.cycStep.2 = .phase p) ∨ (∃ w, s.cycStep.2 = .badOp w) := by
  rcases s.cycStep_cases with ⟨cs, _, e⟩ | ⟨_, _, _, e, ho⟩ <;> rw [e]
  · exact .inl ⟨_, rfl⟩
  · exact .inr ho

end Fastrace
