import FastraceModel.Lemmas.Wire

/-!
A decoder for the Thrift compact protocol (the subset the Jaeger reporter emits) and the proof
that it inverts the encoder of `Model/Report/Thrift.lean` on well-formed data:
`decData (encData d ++ rest) = some (d, rest)`.
-/
namespace Fastrace.Thrift

mutual
def TData.size : TData → Nat
  | .i32 _ => 1
  | .i64 _ => 1
  | .binary _ => 1
  | .struct fs => fs.size + 1
  | .list es => es.size + 1
def TFields.size : TFields → Nat
  | .nil => 1
  | .cons _ d rest => d.size + rest.size + 1
def TList.size : TList → Nat
  | .nil => 1
  | .cons d rest => d.size + rest.size + 1
end

mutual
/-- what the encoder's output can be decoded back from: integers fit their width, field ids
    are positive 15-bit numbers, list elements are structs -/
def TData.WF : TData → Prop
  | .i32 b => b < 2 ^ 32
  | .i64 b => b < 2 ^ 64
  | .binary _ => True
  | .struct fs => fs.WF
  | .list es => es.WF
def TFields.WF : TFields → Prop
  | .nil => True
  | .cons id d rest => 0 < id ∧ id < 2 ^ 15 ∧ d.WF ∧ rest.WF
def TList.WF : TList → Prop
  | .nil => True
  | .cons d rest => (∃ fs, d = .struct fs) ∧ d.WF ∧ rest.WF
end

mutual
def decData : Nat → Nat → List Nat → Option (TData × List Nat)
  | 0, _, _ => none
  | fuel + 1, kind, bs =>
    if kind = 5 then
      match decVarint bs with
      | some (z, rest) => some (.i32 (unzigzag32 z), rest)
      | none => none
    else if kind = 6 then
      match decVarint bs with
      | some (z, rest) => some (.i64 (unzigzag64 z), rest)
      | none => none
    else if kind = 8 then
      match decVarint bs with
      | some (n, rest) => if n ≤ rest.length then some (.binary (rest.take n), rest.drop n) else none
      | none => none
    else if kind = 12 then
      match decFields fuel 0 bs with
      | some (fs, rest) => some (.struct fs, rest)
      | none => none
    else if kind = 9 then
      match bs with
      | [] => none
      | h :: rest =>
        if h % 16 ≠ 12 then none
        else if h / 16 = 15 then
          match decVarint rest with
          | some (n, rest') =>
            match decList fuel n rest' with
            | some (es, r) => some (.list es, r)
            | none => none
          | none => none
        else
          match decList fuel (h / 16) rest with
          | some (es, r) => some (.list es, r)
          | none => none
    else none
/-- decode the fields of a struct up to the stop byte; `prev` = previous field id -/
def decFields : Nat → Nat → List Nat → Option (TFields × List Nat)
  | 0, _, _ => none
  | _ + 1, _, [] => none
  | fuel + 1, prev, h :: rest =>
    if h = 0 then some (.nil, rest)
    else if h / 16 ≠ 0 then
      match decData fuel (h % 16) rest with
      | some (d, r1) =>
        match decFields fuel (prev + h / 16) r1 with
        | some (fs, r2) => some (.cons (prev + h / 16) d fs, r2)
        | none => none
      | none => none
    else
      match decVarint rest with
      | some (z, r0) =>
        match decData fuel (h % 16) r0 with
        | some (d, r1) =>
          match decFields fuel (unzigzag32 z) r1 with
          | some (fs, r2) => some (.cons (unzigzag32 z) d fs, r2)
          | none => none
        | none => none
      | none => none
def decList : Nat → Nat → List Nat → Option (TList × List Nat)
  | 0, _, _ => none
  | _ + 1, 0, bs => some (.nil, bs)
  | fuel + 1, n + 1, bs =>
    match decData fuel 12 bs with
    | some (d, r1) =>
      match decList fuel n r1 with
      | some (es, r2) => some (.cons d es, r2)
      | none => none
    | none => none
end

theorem compactKind_lt (d : TData) : compactKind d ≠ 0 ∧ compactKind d < 16 := by
  cases d <;> simp [compactKind]

/-- a header byte: high nibble `hi`, low nibble `lo` -/
theorem nibbles (hi lo : Nat) (h : lo < 16) : (hi * 16 + lo) / 16 = hi ∧ (hi * 16 + lo) % 16 = lo := by
  rw [Nat.mul_comm, Nat.mul_add_div (by decide), Nat.mul_add_mod, Nat.div_eq_of_lt h, Nat.mod_eq_of_lt h]
  exact ⟨rfl, rfl⟩

theorem take_append_length {α : Type} (a b : List α) : (a ++ b).take a.length = a := by simp
theorem drop_append_length {α : Type} (a b : List α) : (a ++ b).drop a.length = b := by simp

theorem size_pos : (∀ d : TData, 0 < d.size) ∧ (∀ fs : TFields, 0 < fs.size) ∧ ∀ es : TList, 0 < es.size :=
  ⟨fun d => by cases d <;> exact Nat.succ_pos _, fun fs => by cases fs <;> exact Nat.succ_pos _,
    fun es => by cases es <;> exact Nat.succ_pos _⟩

/-- the three round trips at one fuel: the decoders recurse on the fuel, so the induction does -/
theorem roundTrip (fuel : Nat) :
    (∀ d rest, TData.WF d → d.size ≤ fuel →
      decData fuel (compactKind d) (encData d ++ rest) = some (d, rest)) ∧
    (∀ fs prev rest, TFields.WF fs → fs.size ≤ fuel →
      decFields fuel prev (encFields prev fs ++ rest) = some (fs, rest)) ∧
    (∀ es rest, TList.WF es → es.size ≤ fuel →
      decList fuel es.length (encList es ++ rest) = some (es, rest)) := by
  induction fuel with
  | zero =>
    exact ⟨fun d _ _ h => absurd h (Nat.not_le.mpr (size_pos.1 d)),
      fun fs _ _ _ h => absurd h (Nat.not_le.mpr (size_pos.2.1 fs)),
      fun es _ _ h => absurd h (Nat.not_le.mpr (size_pos.2.2 es))⟩
  | succ f ih =>
    obtain ⟨ihd, ihf, ihl⟩ := ih
    refine ⟨fun d rest hw hf => ?_, fun fs prev rest hw hf => ?_, fun es rest hw hf => ?_⟩
    · unfold decData
      cases d with
      | i32 b => simp only [compactKind, encData, if_true, decVarint_varint, unzigzag32_zigzag32 b hw]
      | i64 b => simp [compactKind, encData, decVarint_varint, unzigzag64_zigzag64 b hw]
      | binary bs => simp [compactKind, encData, decVarint_varint]
      | struct fs =>
        simp [compactKind, encData, ihf fs 0 rest hw (Nat.le_of_succ_le_succ hf)]
      | list es =>
        have hl := ihl es rest hw (Nat.le_of_succ_le_succ hf)
        simp only [compactKind, encData, Nat.reduceEqDiff, if_false, if_true]
        by_cases hlen : es.length < 15
        · obtain ⟨h1, h2⟩ := nibbles es.length 12 (by decide)
          simp only [hlen, if_true, List.cons_append, List.nil_append, h1, h2, Nat.ne_of_lt hlen, ne_eq, not_true_eq_false,
            if_false, hl]
        · simp only [hlen, if_false, List.cons_append, List.nil_append, List.append_assoc, Nat.reduceAdd,
            Nat.reduceMod, Nat.reduceDiv, ne_eq, not_true_eq_false, if_true, decVarint_varint, hl]
    · cases fs with
      | nil => simp [decFields, encFields]
      | cons id d fs =>
        obtain ⟨-, hid, hwd, hwf⟩ := hw
        have hf : d.size + fs.size ≤ f := Nat.le_of_succ_le_succ hf
        have ihd := fun r => ihd d r hwd (Nat.le_trans (Nat.le_add_right _ _) hf)
        have ihf := fun p r => ihf fs p r hwf (Nat.le_trans (Nat.le_add_left _ _) hf)
        obtain ⟨h0, hk⟩ := compactKind_lt d
        simp only [encFields]
        by_cases hshort : prev < id ∧ id - prev ≤ 15
        · obtain ⟨δ, rfl⟩ := Nat.le.dest (Nat.le_of_lt hshort.1)
          rw [Nat.add_sub_cancel_left] at hshort ⊢
          obtain ⟨h1, h2⟩ := nibbles δ _ hk
          have h0 : ¬ (δ * 16 + compactKind d = 0) := fun h => h0 (Nat.eq_zero_of_add_eq_zero_left h)
          have h3 : δ ≠ 0 := Nat.ne_of_gt (Nat.pos_of_lt_add_right hshort.1)
          simp only [hshort, and_self, if_true, List.cons_append, List.nil_append, List.append_assoc, decFields,
            h0, if_false, h1, h2, h3, ne_eq, not_false_eq_true, ihd, ihf]
        · simp only [hshort, if_false, List.cons_append, List.nil_append, List.append_assoc, decFields,
            h0, Nat.div_eq_of_lt hk, ne_eq, not_true_eq_false, Nat.mod_eq_of_lt hk, decVarint_varint,
            unzigzag32_zigzag32 id (Nat.lt_trans hid (by decide)), ihd, ihf]
    · unfold decList
      cases es with
      | nil => simp [encList, TList.length]
      | cons d es =>
        obtain ⟨⟨fs, rfl⟩, hwd, hwe⟩ := hw
        have hf : (TData.struct fs).size + es.size ≤ f := Nat.le_of_succ_le_succ hf
        have ihd : decData f 12 _ = _ := ihd (.struct fs) (encList es ++ rest) hwd (Nat.le_trans (Nat.le_add_right _ _) hf)
        simp only [encList, TList.length, List.append_assoc, ihd,
          ihl es rest hwe (Nat.le_trans (Nat.le_add_left _ _) hf)]

theorem decData_encData (d : TData) (fuel : Nat) (rest : List Nat) (hw : d.WF) (hf : d.size ≤ fuel) :
    decData fuel (compactKind d) (encData d ++ rest) = some (d, rest) :=
  (roundTrip fuel).1 d rest hw hf

theorem decFields_encFields (fs : TFields) (fuel prev : Nat) (rest : List Nat) (hw : fs.WF)
    (hf : fs.size ≤ fuel) : decFields fuel prev (encFields prev fs ++ rest) = some (fs, rest) :=
  (roundTrip fuel).2.1 fs prev rest hw hf

theorem decList_encList : ∀ (es : TList) (fuel : Nat) (rest : List Nat), es.WF → es.size ≤ fuel →
    decList fuel es.length (encList es ++ rest) = some (es, rest) :=
  fun es fuel rest hw hf => (roundTrip fuel).2.2 es rest hw hf

end Fastrace.Thrift
