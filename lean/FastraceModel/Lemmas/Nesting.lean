import FastraceModel.Lemmas.Local

/-!
Interval structure of the local spans of one scope (C18, and the parent clause of C02 for local
spans).  A well-nested piece of local-span code is a forest of blocks; running it on a span
queue appends, for every block, its record followed by the records of everything inside it.
`OutOK` says what those records look like: each span's children (spans and events) lie strictly
inside its interval, carry its id as parent, and siblings follow each other without overlap.
-/
namespace Fastrace

/-- well-nested local-span code of one scope -/
inductive LB where
  | span (name : String) (body : List LB)
  | event (name : String) (props : Option Props)
  | props (kvs : Props)

mutual
def LB.size : LB → Nat
  | .span _ body => 1 + LB.sizes body
  | .event _ _ => 1
  | .props _ => 1
def LB.sizes : List LB → Nat
  | [] => 0
  | b :: bs => b.size + LB.sizes bs
end

mutual
/-- run one block on the queue: `LocalSpan::enter_with_local_parent` … drop, `add_event`,
    `add_properties` -/
def runLB (q : SpanQueue) (c : Ctr) : LB → SpanQueue × Ctr
  | .span n body =>
    match q.startSpan c n with
    | none => runLBs q c body
    | some (q1, idx, c1) =>
      let r := runLBs q1 c1 body
      r.1.finishSpan r.2 idx
  | .event n p => q.addEvent c n p
  | .props kvs => q.addProps c kvs
def runLBs (q : SpanQueue) (c : Ctr) : List LB → SpanQueue × Ctr
  | [] => (q, c)
  | b :: bs =>
    let r := runLB q c b
    runLBs r.1 r.2 bs
end

mutual
/-- the records one block leaves behind, given the parent id `par` in effect and the clock
    window `(lo, hi]` in which it ran.  The clock counts its readings and a span is stamped with
    two of them, so what runs inside the span reads the clock after `beginT` and no later than the
    last reading before `endT`: its window is `(beginT, endT - 1]`. -/
def OutOK (par lo hi : Nat) : LB → List RawSpan → Prop
  | .span n body, l =>
    ∃ s kids, l = s :: kids ∧ s.kind = .span ∧ s.name = n ∧ s.parentId = par ∧ s.id ≠ 0 ∧
      lo < s.beginT ∧ s.beginT < s.endT ∧ s.endT ≤ hi ∧
      OutsOK s.id s.beginT (s.endT - 1) body kids
  | .event n _, l => ∃ e, l = [e] ∧ e.kind = .event ∧ e.name = n ∧ e.parentId = par ∧ lo < e.beginT ∧ e.beginT ≤ hi
  | .props _, l => ∃ p, l = [p] ∧ p.kind = .properties ∧ p.parentId = par
/-- … and a sequence of blocks: one after the other, each entirely before the next -/
def OutsOK (par lo hi : Nat) : List LB → List RawSpan → Prop
  | [], l => l = [] ∧ lo ≤ hi
  | b :: bs, l => ∃ l1 l2 mid, l = l1 ++ l2 ∧ lo ≤ mid ∧ OutOK par lo mid b l1 ∧ OutsOK par mid hi bs l2
end

/-- the state a run starts from: room for everything, a usable parent, non-zero ids -/
structure Ready (q : SpanQueue) (c : Ctr) (need : Nat) : Prop where
  room : q.spans.length + need ≤ q.cap
  par : q.nextParent ≠ some 0
  pref : 1 ≤ c.pref

structure Ran (q : SpanQueue) (c : Ctr) (q' : SpanQueue) (c' : Ctr) (new : List RawSpan) (n : Nat) : Prop where
  spans : q'.spans = q.spans ++ new
  len : new.length = n
  par : q'.nextParent = q.nextParent
  cap : q'.cap = q.cap
  pref : c'.pref = c.pref
  clock : c.clock ≤ c'.clock

theorem Ran.refl (q : SpanQueue) (c : Ctr) : Ran q c q c [] 0 :=
  ⟨(List.append_nil _).symm, rfl, rfl, rfl, rfl, Nat.le_refl _⟩

theorem Ran.trans {q q1 q2 : SpanQueue} {c c1 c2 : Ctr} {l1 l2 : List RawSpan} {n1 n2 : Nat}
    (h1 : Ran q c q1 c1 l1 n1) (h2 : Ran q1 c1 q2 c2 l2 n2) : Ran q c q2 c2 (l1 ++ l2) (n1 + n2) :=
  ⟨by rw [h2.spans, h1.spans, List.append_assoc], by rw [List.length_append, h1.len, h2.len],
   h2.par.trans h1.par, h2.cap.trans h1.cap, h2.pref.trans h1.pref, Nat.le_trans h1.clock h2.clock⟩

theorem Ready.lt {q : SpanQueue} {c : Ctr} {n : Nat} (h : Ready q c n) (hn : 0 < n) : q.spans.length < q.cap :=
  Nat.lt_of_lt_of_le (Nat.lt_add_of_pos_right hn) h.room

theorem Ready.mono {q : SpanQueue} {c : Ctr} {m n : Nat} (h : Ready q c n) (hmn : m ≤ n) : Ready q c m :=
  ⟨Nat.le_trans (Nat.add_le_add_left hmn _) h.room, h.par, h.pref⟩

theorem Ready.after {q q1 : SpanQueue} {c c1 : Ctr} {l : List RawSpan} {m n : Nat} (h : Ready q c (m + n))
    (hr : Ran q c q1 c1 l m) : Ready q1 c1 n :=
  ⟨by rw [hr.spans, hr.cap, List.length_append, hr.len, Nat.add_assoc]; exact h.room, hr.par ▸ h.par, hr.pref ▸ h.pref⟩

theorem Ready.started {q q1 : SpanQueue} {c c1 : Ctr} {n : String} {idx k : Nat} (hr : Ready q c (1 + k))
    (hs : q.startSpan c n = some (q1, idx, c1)) : Ready q1 c1 k := by
  cases (SpanQueue.startSpan_eq_some.mp hs).2
  exact ⟨by rw [List.length_append, List.length_singleton, Nat.add_assoc]; exact hr.room,
    fun e => nextId_ne_zero c hr.pref (Option.some.inj e), hr.pref⟩

theorem Ran.span {q q1 q2 : SpanQueue} {c c1 c2 : Ctr} {n : String} {kids : List RawSpan} {idx k : Nat}
    (hr : Ready q c (1 + k)) (hs : q.startSpan c n = some (q1, idx, c1)) (h : Ran q1 c1 q2 c2 kids k) :
    Ran q c (q2.finishSpan c2 idx).1 (q2.finishSpan c2 idx).2
      ({ q.started c n with endT := c2.clock + 1 } :: kids) (1 + k) ∧
    (q2.finishSpan c2 idx).2.clock = c2.clock + 1 := by
  cases (SpanQueue.startSpan_eq_some.mp hs).2
  have hs : q2.spans = q.spans ++ q.started c n :: kids := h.spans.trans (List.append_assoc ..)
  have hget : q2.spans[q.spans.length]? = some (q.started c n) := by
    rw [hs, List.getElem?_append_right (Nat.le_refl _), Nat.sub_self]; rfl
  rw [SpanQueue.finishSpan_of_get hget]
  refine ⟨⟨?_, ?_, restore_parent hr.par, h.cap, h.pref,
    Nat.le_trans (Nat.le_succ _) (Nat.le_succ_of_le h.clock)⟩, rfl⟩
  · rw [hs, List.set_append_right _ _ (Nat.le_refl _), Nat.sub_self]; rfl
  · rw [List.length_cons, h.len, Nat.add_comm]

mutual
theorem runLB_ok : ∀ (b : LB) (q : SpanQueue) (c : Ctr), Ready q c b.size →
    ∃ new, Ran q c (runLB q c b).1 (runLB q c b).2 new b.size ∧
      OutOK (q.nextParent.getD 0) c.clock (runLB q c b).2.clock b new
  | .span n body => fun q c hr => by
    have hr : Ready q c (1 + LB.sizes body) := hr
    have hs : q.startSpan c n = some _ := SpanQueue.startSpan_eq_some.mpr ⟨hr.lt (Nat.add_pos_left Nat.one_pos _), rfl⟩
    rw [runLB, hs]
    obtain ⟨kids, hran, hout⟩ := runLBs_ok body _ _ (hr.started hs)
    obtain ⟨hran', hclk⟩ := Ran.span hr hs hran
    exact ⟨_, hran', _, kids, rfl, rfl, rfl, rfl, nextId_ne_zero c hr.pref, Nat.lt_succ_self _,
      Nat.succ_lt_succ hran.clock, Nat.le_of_eq hclk.symm, hout⟩
  | .event n p => fun q c hr => by
    rw [runLB, SpanQueue.addEvent_of_room (hr.lt Nat.one_pos)]
    exact ⟨[_], ⟨rfl, rfl, rfl, rfl, rfl, Nat.le_succ _⟩, _, rfl, rfl, rfl, rfl, Nat.lt_succ_self _, Nat.le_refl _⟩
  | .props kvs => fun q c hr => by
    rw [runLB, SpanQueue.addProps_of_room (hr.lt Nat.one_pos)]
    exact ⟨[_], ⟨rfl, rfl, rfl, rfl, rfl, Nat.le_refl _⟩, _, rfl, rfl, rfl⟩
theorem runLBs_ok : ∀ (bs : List LB) (q : SpanQueue) (c : Ctr), Ready q c (LB.sizes bs) →
    ∃ new, Ran q c (runLBs q c bs).1 (runLBs q c bs).2 new (LB.sizes bs) ∧
      OutsOK (q.nextParent.getD 0) c.clock (runLBs q c bs).2.clock bs new
  | [] => fun q c _ => ⟨[], Ran.refl q c, rfl, Nat.le_refl _⟩
  | b :: bs => fun q c hr => by
    have hr : Ready q c (b.size + LB.sizes bs) := hr
    obtain ⟨l1, hran1, hout1⟩ := runLB_ok b q c (hr.mono (Nat.le_add_right ..))
    obtain ⟨l2, hran2, hout2⟩ := runLBs_ok bs _ _ (hr.after hran1)
    rw [runLBs]
    exact ⟨l1 ++ l2, hran1.trans hran2, l1, l2, _, rfl, hran1.clock, hout1, hran1.par ▸ hout2⟩
end

theorem outsOK_le : ∀ (bs : List LB) (par lo hi : Nat) (l : List RawSpan), OutsOK par lo hi bs l → lo ≤ hi
  | [] => fun par lo hi l h => h.2
  | b :: bs => fun par lo hi l h => by
    obtain ⟨l1, l2, mid, _, hle, _, h2⟩ := h
    exact Nat.le_trans hle (outsOK_le bs par mid hi l2 h2)

/-- an entry's instants lie in the window `(lo, hi]` (properties records carry no instant) -/
def InWindow (lo hi : Nat) (s : RawSpan) : Prop :=
  match s.kind with
  | .span => lo < s.beginT ∧ s.beginT < s.endT ∧ s.endT ≤ hi
  | .event => lo < s.beginT ∧ s.beginT ≤ hi
  | .properties => True

theorem InWindow.mono {lo hi lo' hi' : Nat} {s : RawSpan} (h : InWindow lo hi s) (h1 : lo' ≤ lo) (h2 : hi ≤ hi') :
    InWindow lo' hi' s := by
  obtain ⟨_, _, _, _, _, kind, _⟩ := s
  cases kind
  · exact ⟨Nat.lt_of_le_of_lt h1 h.1, h.2.1, Nat.le_trans h.2.2 h2⟩
  · exact ⟨Nat.lt_of_le_of_lt h1 h.1, Nat.le_trans h.2 h2⟩
  · trivial

mutual
theorem outOK_window : ∀ (b : LB) (par lo hi : Nat) (l : List RawSpan), OutOK par lo hi b l → ∀ s ∈ l, InWindow lo hi s
  | .span n body => fun par lo hi l h => by
    obtain ⟨s, kids, rfl, hk, _, _, _, h1, h2, h3, hkids⟩ := h
    intro x hx
    simp only [List.mem_cons] at hx
    rcases hx with rfl | hx
    · simp only [InWindow, hk]; exact ⟨h1, h2, h3⟩
    · exact (outsOK_window body _ _ _ kids hkids x hx).mono (Nat.le_of_lt h1) (Nat.le_trans (Nat.sub_le _ _) h3)
  | .event n p => fun par lo hi l h => by
    obtain ⟨e, rfl, hk, _, _, h1, h2⟩ := h
    intro x hx
    simp only [List.mem_singleton] at hx
    subst hx
    simp only [InWindow, hk]; exact ⟨h1, h2⟩
  | .props kvs => fun par lo hi l h => by
    obtain ⟨p, rfl, hk, _⟩ := h
    intro x hx
    simp only [List.mem_singleton] at hx
    subst hx
    simp only [InWindow, hk]
theorem outsOK_window : ∀ (bs : List LB) (par lo hi : Nat) (l : List RawSpan), OutsOK par lo hi bs l → ∀ s ∈ l, InWindow lo hi s
  | [] => fun par lo hi l h => by
    obtain ⟨rfl, _⟩ := h
    intro s hs; cases hs
  | b :: bs => fun par lo hi l h => by
    obtain ⟨l1, l2, mid, rfl, hle, h1, h2⟩ := h
    have hhi : mid ≤ hi := outsOK_le bs par mid hi l2 h2
    intro s hs
    simp only [List.mem_append] at hs
    rcases hs with hs | hs
    · exact (outOK_window b par lo mid l1 h1 s hs).mono (Nat.le_refl _) hhi
    · exact (outsOK_window bs par mid hi l2 h2 s hs).mono hle (Nat.le_refl _)
end

end Fastrace
