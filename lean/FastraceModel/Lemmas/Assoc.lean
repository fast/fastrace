import FastraceModel.Model.Api
import FastraceModel.Lemmas.AList
/-!
Association-list helpers of `Model/Api.lean`.  `natGet` and `assocGet` are `alGet` (`Lemmas/AList.lean`) at the
key types `Nat` and `String`, `assocSet` and `assocDel` its insertion and removal; `natSet` replaces in place, or
appends when the key is absent.  At the end, the projections of `setTh`, `putCtr` and `withG`, by `rfl`.
-/
namespace Fastrace

variable {β : Type}

@[simp] theorem natGet_nil (k : Nat) : natGet ([] : List (Nat × β)) k = none := rfl

theorem natGet_cons (k' k : Nat) (v : β) (l : List (Nat × β)) :
    natGet ((k', v) :: l) k = if k' = k then some v else natGet l k :=
  alGet_cons k' k v l

theorem natGet_append (a b : List (Nat × β)) (k : Nat) :
    natGet (a ++ b) k = (natGet a k).orElse fun _ => natGet b k :=
  (alGet_append a b k).trans Option.or_eq_orElse

theorem natGet_mem {l : List (Nat × β)} {k : Nat} {v : β} (h : natGet l k = some v) : (k, v) ∈ l :=
  alGet_mem h

theorem natGet_isSome_iff (l : List (Nat × β)) (k : Nat) : (natGet l k).isSome = true ↔ k ∈ l.map (·.1) :=
  alGet_isSome l k

theorem natGet_eq_none_iff (l : List (Nat × β)) (k : Nat) : natGet l k = none ↔ k ∉ l.map (·.1) := by
  rw [← natGet_isSome_iff, Option.not_isSome_iff_eq_none]

theorem natGet_natSet_same (l : List (Nat × β)) (k : Nat) (v : β) : natGet (natSet l k v) k = some v := by
  induction l with
  | nil => simp [natSet, natGet_cons]
  | cons hd tl ih => simp only [natSet]; split <;> simp [natGet_cons, *]

theorem natGet_natSet_other (l : List (Nat × β)) (k k2 : Nat) (v : β) (hne : k2 ≠ k) :
    natGet (natSet l k v) k2 = natGet l k2 := by
  induction l with
  | nil => simp [natSet, natGet_cons, hne.symm]
  | cons hd tl ih =>
    simp only [natSet]
    split
    · next h => rw [natGet_cons, natGet_cons, h, if_neg hne.symm, if_neg hne.symm]
    · rw [natGet_cons, natGet_cons, ih]

theorem mem_natSet {l : List (Nat × β)} {k : Nat} {v : β} {e : Nat × β} (h : e ∈ natSet l k v) : e ∈ l ∨ e = (k, v) := by
  induction l with
  | nil => exact .inr (List.mem_singleton.mp h)
  | cons hd tl ih =>
    simp only [natSet] at h
    split at h
    · exact (List.mem_cons.mp h).symm.imp (List.mem_cons_of_mem _) id
    · rcases List.mem_cons.mp h with h | h
      · exact .inl (h ▸ List.mem_cons_self)
      · exact (ih h).imp (List.mem_cons_of_mem _) id

theorem natSet_of_natGet {l : List (Nat × β)} {k : Nat} {v : β} (h : natGet l k = some v) (v' : β) :
    ∃ l1 l2, l = l1 ++ (k, v) :: l2 ∧ natSet l k v' = l1 ++ (k, v') :: l2 := by
  induction l with
  | nil => cases h
  | cons hd tl ih =>
    obtain ⟨k', w⟩ := hd
    rw [natGet_cons] at h
    simp only [natSet]
    split at h
    · next e => cases h; cases e; exact ⟨[], tl, rfl, by simp⟩
    · next hne =>
      obtain ⟨l1, l2, e1, e2⟩ := ih h
      exact ⟨(k', w) :: l1, l2, by rw [e1]; rfl, by rw [if_neg hne, e2]; rfl⟩

theorem natSet_append_left {a : List (Nat × β)} {k : Nat} (h : (natGet a k).isSome = true) (b : List (Nat × β)) (v : β) :
    natSet (a ++ b) k v = natSet a k v ++ b := by
  induction a with
  | nil => cases h
  | cons hd tl ih =>
    rw [natGet_cons] at h
    simp only [List.cons_append, natSet]
    split
    · rfl
    · next hne => rw [if_neg hne] at h; rw [ih h]; rfl

theorem natSet_append_right {a : List (Nat × β)} {k : Nat} (h : natGet a k = none) (b : List (Nat × β)) (v : β) :
    natSet (a ++ b) k v = a ++ natSet b k v := by
  induction a with
  | nil => rfl
  | cons hd tl ih =>
    rw [natGet_cons] at h
    simp only [List.cons_append, natSet]
    split at h
    · cases h
    · next hne => rw [if_neg hne, ih h]

theorem assocGet_assocSet_same (l : List (String × β)) (k : String) (v : β) :
    assocGet (assocSet l k v) k = some v :=
  (alGet_set l k k v).trans (if_pos rfl)

theorem assocGet_assocSet_other {β : Type} (l : List (String × β)) (k k2 : String) (v : β) (hne : k2 ≠ k) :
    assocGet (assocSet l k v) k2 = assocGet l k2 :=
  (alGet_set l k2 k v).trans (if_neg hne)

theorem mem_assocSet {l : List (String × β)} {k : String} {v : β} {e : String × β}
    (h : e ∈ assocSet l k v) : e ∈ l ∨ e = (k, v) := by
  simp only [assocSet, List.mem_append, List.mem_filter, List.mem_singleton] at h
  exact h.imp And.left id

theorem mem_assocDel {l : List (String × β)} {k : String} {e : String × β} (h : e ∈ assocDel l k) : e ∈ l :=
  (List.mem_filter.mp h).1

theorem assocGet_mem {l : List (String × β)} {k : String} {v : β} (h : assocGet l k = some v) : (k, v) ∈ l :=
  alGet_mem h

@[simp] theorem Sys.th_setTh_same (s : Sys) (t : Nat) (th : Th) : (s.setTh t th).th t = th := by
  simp [Sys.th, Sys.setTh, natGet_natSet_same]

theorem Sys.th_setTh_other (s : Sys) (t t2 : Nat) (th : Th) (h : t2 ≠ t) : (s.setTh t th).th t2 = s.th t2 := by
  simp [Sys.th, Sys.setTh, natGet_natSet_other _ _ _ _ h]

theorem Sys.th_setTh_ind {P : Nat → Th → Prop} {s : Sys} {t : Nat} {th : Th} (ht : P t th) (h : ∀ t2, P t2 (s.th t2))
    (t2 : Nat) : P t2 ((s.setTh t th).th t2) := by
  by_cases e : t2 = t
  · subst e; rw [Sys.th_setTh_same]; exact ht
  · rw [Sys.th_setTh_other _ _ _ _ e]; exact h t2

/-- stated on the table: for two states that are not syntactically alike `rfl` proves this at once, and `s'.th t = s.th t`
    only after a long failed attempt to unify the states -/
theorem Sys.th_congr {s s' : Sys} (h : s'.threads = s.threads) (t : Nat) : s'.th t = s.th t := by
  unfold Sys.th; rw [h]

@[simp] theorem Sys.setTh_rxs (s : Sys) (t : Nat) (th : Th) : (s.setTh t th).rxs = s.rxs := rfl
@[simp] theorem Sys.setTh_coll (s : Sys) (t : Nat) (th : Th) : (s.setTh t th).coll = s.coll := rfl
@[simp] theorem Sys.setTh_cyc (s : Sys) (t : Nat) (th : Th) : (s.setTh t th).cyc = s.cyc := rfl
@[simp] theorem Sys.setTh_nextCollect (s : Sys) (t : Nat) (th : Th) : (s.setTh t th).nextCollect = s.nextCollect := rfl
@[simp] theorem Sys.setTh_clock (s : Sys) (t : Nat) (th : Th) : (s.setTh t th).clock = s.clock := rfl
@[simp] theorem Sys.setTh_spans (s : Sys) (t : Nat) (th : Th) : (s.setTh t th).spans = s.spans := rfl
@[simp] theorem Sys.setTh_lspans (s : Sys) (t : Nat) (th : Th) : (s.setTh t th).lspans = s.lspans := rfl
@[simp] theorem Sys.setTh_adapters (s : Sys) (t : Nat) (th : Th) : (s.setTh t th).adapters = s.adapters := rfl
@[simp] theorem Sys.setTh_reporterReady (s : Sys) (t : Nat) (th : Th) : (s.setTh t th).reporterReady = s.reporterReady := rfl

@[simp] theorem Sys.putCtr_rxs (s : Sys) (t : Nat) (c : Ctr) : (s.putCtr t c).rxs = s.rxs := rfl
@[simp] theorem Sys.putCtr_coll (s : Sys) (t : Nat) (c : Ctr) : (s.putCtr t c).coll = s.coll := rfl
@[simp] theorem Sys.putCtr_cyc (s : Sys) (t : Nat) (c : Ctr) : (s.putCtr t c).cyc = s.cyc := rfl
@[simp] theorem Sys.putCtr_nextCollect (s : Sys) (t : Nat) (c : Ctr) : (s.putCtr t c).nextCollect = s.nextCollect := rfl
@[simp] theorem Sys.putCtr_clock (s : Sys) (t : Nat) (c : Ctr) : (s.putCtr t c).clock = c.clock := rfl
@[simp] theorem Sys.putCtr_spans (s : Sys) (t : Nat) (c : Ctr) : (s.putCtr t c).spans = s.spans := rfl
@[simp] theorem Sys.putCtr_lspans (s : Sys) (t : Nat) (c : Ctr) : (s.putCtr t c).lspans = s.lspans := rfl
@[simp] theorem Sys.putCtr_adapters (s : Sys) (t : Nat) (c : Ctr) : (s.putCtr t c).adapters = s.adapters := rfl
@[simp] theorem Sys.putCtr_reporterReady (s : Sys) (t : Nat) (c : Ctr) : (s.putCtr t c).reporterReady = s.reporterReady := rfl

@[simp] theorem Sys.putCtr_th_same (s : Sys) (t : Nat) (c : Ctr) :
    (s.putCtr t c).th t = { s.th t with suffix := c.suffix } := by
  simp [Sys.putCtr, Sys.th, Sys.setTh, natGet_natSet_same]

theorem Sys.putCtr_th_other (s : Sys) (t t2 : Nat) (c : Ctr) (h : t2 ≠ t) :
    (s.putCtr t c).th t2 = s.th t2 := by
  simp [Sys.putCtr, Sys.th, Sys.setTh, natGet_natSet_other _ _ _ _ h]

/-! the history variables are invisible to every projection the operations read -/
@[simp] theorem Sys.withG_th (s : Sys) (g : Ghost) (t : Nat) : (s.withG g).th t = s.th t := rfl
@[simp] theorem Sys.withG_threads (s : Sys) (g : Ghost) : (s.withG g).threads = s.threads := rfl
@[simp] theorem Sys.withG_rxs (s : Sys) (g : Ghost) : (s.withG g).rxs = s.rxs := rfl
@[simp] theorem Sys.withG_coll (s : Sys) (g : Ghost) : (s.withG g).coll = s.coll := rfl
@[simp] theorem Sys.withG_cyc (s : Sys) (g : Ghost) : (s.withG g).cyc = s.cyc := rfl
@[simp] theorem Sys.withG_nextCollect (s : Sys) (g : Ghost) : (s.withG g).nextCollect = s.nextCollect := rfl
@[simp] theorem Sys.withG_clock (s : Sys) (g : Ghost) : (s.withG g).clock = s.clock := rfl
@[simp] theorem Sys.withG_spans (s : Sys) (g : Ghost) : (s.withG g).spans = s.spans := rfl
@[simp] theorem Sys.withG_lspans (s : Sys) (g : Ghost) : (s.withG g).lspans = s.lspans := rfl
@[simp] theorem Sys.withG_reporterReady (s : Sys) (g : Ghost) : (s.withG g).reporterReady = s.reporterReady := rfl
@[simp] theorem Sys.withG_adapters (s : Sys) (g : Ghost) : (s.withG g).adapters = s.adapters := rfl
@[simp] theorem Sys.withG_deferred (s : Sys) (g : Ghost) : (s.withG g).deferred = s.deferred := rfl
@[simp] theorem Sys.withG_carried (s : Sys) (g : Ghost) : (s.withG g).carried = s.carried := rfl
@[simp] theorem Sys.withG_g (s : Sys) (g : Ghost) : (s.withG g).g = g := rfl
@[simp] theorem Sys.withG_ctr (s : Sys) (g : Ghost) (t : Nat) : (s.withG g).ctr t = s.ctr t := rfl
@[simp] theorem Sys.setTh_g (s : Sys) (t : Nat) (th : Th) : (s.setTh t th).g = s.g := rfl
@[simp] theorem Sys.putCtr_g (s : Sys) (t : Nat) (c : Ctr) : (s.putCtr t c).g = s.g := rfl

end Fastrace
