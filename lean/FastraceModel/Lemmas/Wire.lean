import FastraceModel.Model.Report.Thrift
import FastraceModel.Model.Report.Otel

/-! decoders for the wire primitives and their round-trip lemmas -/
namespace Fastrace.Thrift

def decVarint : List Nat → Option (Nat × List Nat)
  | [] => none
  | b :: rest =>
    if b < 128 then some (b, rest)
    else match decVarint rest with
      | some (v, r) => some ((b - 128) + 128 * v, r)
      | none => none

theorem decVarint_varint (n : Nat) (rest : List Nat) :
    decVarint (varint n ++ rest) = some (n, rest) := by
  fun_induction varint n with
  | case1 n h => exact if_pos h
  | case2 n h ih =>
    rw [List.cons_append, decVarint, if_neg (Nat.not_lt.mpr (Nat.le_add_left 128 _)), ih]
    show some (_, rest) = _
    rw [Nat.add_sub_cancel, Nat.mod_add_div]

theorem varint_bytes (n : Nat) : ∀ b ∈ varint n, b < 256 := by
  fun_induction varint n with
  | case1 n h => exact List.forall_mem_cons.mpr ⟨Nat.lt_trans h (by decide), nofun⟩
  | case2 n h ih =>
    exact List.forall_mem_cons.mpr ⟨Nat.add_lt_add_right (Nat.mod_lt n (by decide)) 128, ih⟩

def unzigzag64 (z : Nat) : Nat := if z % 2 = 0 then z / 2 else 2 ^ 64 - (z + 1) / 2
def unzigzag32 (z : Nat) : Nat := if z % 2 = 0 then z / 2 else 2 ^ 32 - (z + 1) / 2

/-- zigzag at any width `W` (`2 ^ 64`, `2 ^ 32`): what is read back does not depend on the bound `H`
    below which a pattern counts as non-negative -/
theorem unzigzag_zigzag {H W u z : Nat} (h : u < W) (hz : z = if u < H then 2 * u else 2 * W - 2 * u - 1) :
    (if z % 2 = 0 then z / 2 else W - (z + 1) / 2) = u := by
  by_cases h1 : u < H
  · rw [hz, if_pos h1, if_pos (Nat.mul_mod_right 2 u), Nat.mul_div_cancel_left u (by decide)]
  · -- `z` is the odd number below twice the distance of `u` from `W`
    have e : z + 1 = 2 * (W - u) := by
      rw [hz, if_neg h1, Nat.mul_sub]
      exact Nat.sub_add_cancel (Nat.sub_pos_of_lt (Nat.mul_lt_mul_of_pos_left h (by decide)))
    have hodd : z % 2 ≠ 0 := fun h0 => by
      have := Nat.add_mod z 1 2
      rw [e, Nat.mul_mod_right, h0] at this
      exact absurd this (by decide)
    rw [if_neg hodd, e, Nat.mul_div_cancel_left _ (by decide), Nat.sub_sub_self (Nat.le_of_lt h)]

theorem unzigzag64_zigzag64 (u : Nat) (h : u < 2 ^ 64) : unzigzag64 (zigzag64 u) = u :=
  unzigzag_zigzag h rfl

theorem unzigzag32_zigzag32 (u : Nat) (h : u < 2 ^ 32) : unzigzag32 (zigzag32 u) = u :=
  unzigzag_zigzag h rfl

end Fastrace.Thrift

namespace Fastrace.Otel

def ofBe : List Nat → Nat
  | [] => 0
  | b :: rest => b * 256 ^ rest.length + ofBe rest

@[simp] theorem be_length (w n : Nat) : (be w n).length = w := by
  induction w with
  | zero => rfl
  | succ w ih => simp [be, ih]

theorem ofBe_be (w n : Nat) : ofBe (be w n) = n % 256 ^ w := by
  induction w with
  | zero => simp [be, ofBe, Nat.mod_one]
  | succ w ih =>
    simp only [be, ofBe, be_length, ih]
    rw [Nat.mod_pow_succ, Nat.mul_comm, Nat.add_comm]

theorem be_bytes (w n : Nat) : ∀ b ∈ be w n, b < 256 := by
  induction w with
  | zero => simp [be]
  | succ w ih => exact List.forall_mem_cons.mpr ⟨Nat.mod_lt _ (by decide), ih⟩

end Fastrace.Otel
