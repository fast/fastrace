import FastraceModel.Lemmas.MsgpackDec

/-! decoding the body of a Datadog v0.4 request back into what it says about every record -/
namespace Fastrace.Datadog

abbrev Bytes := List Nat

/-- a record as the Datadog format (as used by the reporter) can represent it: the low 64 bits
    of the trace id, times as i64 bit patterns, properties as a key→value map (last value per
    key), no events -/
structure DdView where
  name : Bytes
  service : Bytes
  typ : Bytes
  resource : Bytes
  start : Nat
  duration : Nat
  metaMap : Option (List (Bytes × Bytes))
  errorCode : Nat
  spanId : Nat
  traceId : Nat
  parentId : Nat
deriving DecidableEq, Repr

def ddView (c : Cfg) (r : Record) : DdView :=
  { name := strBytes r.name, service := strBytes c.service, typ := strBytes c.traceType,
    resource := strBytes c.resource, start := r.beginNs, duration := r.durationNs,
    metaMap := if r.props.isEmpty then none else some ((metaOf r.props).map fun kv => (strBytes kv.1, strBytes kv.2)),
    errorCode := 0, spanId := r.spanId, traceId := r.traceId % 2 ^ 64, parentId := r.parentId }

def expectKey (k : Bytes) (bs : Bytes) : Option Bytes :=
  match decStr bs with
  | some (s, r) => if s = k then some r else none
  | none => none

theorem expectKey_key (k rest : Bytes) (h : k.length < 2 ^ 32) : expectKey k (key k ++ rest) = some rest := by
  simp [expectKey, key, decStr_mpStr h rest]

theorem field_roundtrip {α : Type} {dec : Bytes → Option (α × Bytes)} {enc rest k : Bytes} {a : α}
    (hdec : Reads dec a enc) (hk : k.length < 2 ^ 32 := by decide) :
    (expectKey k (key k ++ (enc ++ rest))).bind dec = some (a, rest) := by
  rw [expectKey_key k _ hk]; exact hdec rest

def decPairs : Nat → Bytes → Option (List (Bytes × Bytes) × Bytes)
  | 0, bs => some ([], bs)
  | n + 1, bs =>
    match decStr bs with
    | some (k, r1) =>
      match decStr r1 with
      | some (v, r2) =>
        match decPairs n r2 with
        | some (ps, r3) => some ((k, v) :: ps, r3)
        | none => none
      | none => none
    | none => none

def StrOk (s : String) : Prop := (strBytes s).length < 2 ^ 32

theorem decPairs_enc (ps : Props) (h : ∀ kv ∈ ps, StrOk kv.1 ∧ StrOk kv.2) :
    Reads (decPairs ps.length) (ps.map fun kv => (strBytes kv.1, strBytes kv.2))
      (ps.flatMap fun kv => mpStr (strBytes kv.1) ++ mpStr (strBytes kv.2)) := by
  intro rest
  induction ps with
  | nil => rfl
  | cons p ps ih =>
    obtain ⟨hp, hps⟩ := List.forall_mem_cons.mp h
    simp only [List.length_cons, List.flatMap_cons, List.append_assoc, decPairs, decStr_mpStr hp.1 _,
      decStr_mpStr hp.2 _, ih hps, List.map_cons]

/-- one span map, field by field, in the order the struct is declared -/
def decSpan (bs : Bytes) : Option (DdView × Bytes) :=
  match decLen 0x80 0xde 0xdf bs with
  | none => none
  | some (n, r) =>
    if n ≠ 10 ∧ n ≠ 11 then none else
    match (expectKey kName r).bind decStr with
    | none => none
    | some (name, r) =>
    match (expectKey kService r).bind decStr with
    | none => none
    | some (service, r) =>
    match (expectKey kType r).bind decStr with
    | none => none
    | some (typ, r) =>
    match (expectKey kResource r).bind decStr with
    | none => none
    | some (resource, r) =>
    match (expectKey kStart r).bind decSint with
    | none => none
    | some (start, r) =>
    match (expectKey kDuration r).bind decSint with
    | none => none
    | some (duration, r) =>
    match (if n = 11 then
            ((expectKey kMeta r).bind (decLen 0x80 0xde 0xdf)).bind fun (m, r) =>
              (decPairs m r).map fun (ps, r) => (some ps, r)
          else some (none, r)) with
    | none => none
    | some (mm, r) =>
    match (expectKey kErrorCode r).bind decSint with
    | none => none
    | some (ec, r) =>
    match (expectKey kSpanId r).bind decUint with
    | none => none
    | some (sid, r) =>
    match (expectKey kTraceId r).bind decUint with
    | none => none
    | some (tid, r) =>
    match (expectKey kParentId r).bind decUint with
    | none => none
    | some (pid, r) => some (⟨name, service, typ, resource, start, duration, mm, ec, sid, tid, pid⟩, r)

/-- strings short enough for msgpack's 32-bit length, props few enough for its 32-bit count -/
def RecOk (c : Cfg) (r : Record) : Prop :=
  r.WF ∧ StrOk r.name ∧ StrOk c.service ∧ StrOk c.resource ∧ StrOk c.traceType ∧
  (∀ kv ∈ metaOf r.props, StrOk kv.1 ∧ StrOk kv.2) ∧ (metaOf r.props).length < 2 ^ 32

/-- `decSpan` from its fields; the tails `r0 … r11` are variables, so that unfolding it does not
    carry the encoder's terms -/
theorem decSpan_of_fields {bs r0 r1 r2 r3 r4 r5 r6 r7 r8 r9 r10 r11 : Bytes} {n : Nat} {v : DdView}
    (h0 : decLen 0x80 0xde 0xdf bs = some (n, r0)) (hn : n = 10 ∨ n = 11)
    (h1 : (expectKey kName r0).bind decStr = some (v.name, r1))
    (h2 : (expectKey kService r1).bind decStr = some (v.service, r2))
    (h3 : (expectKey kType r2).bind decStr = some (v.typ, r3))
    (h4 : (expectKey kResource r3).bind decStr = some (v.resource, r4))
    (h5 : (expectKey kStart r4).bind decSint = some (v.start, r5))
    (h6 : (expectKey kDuration r5).bind decSint = some (v.duration, r6))
    (h7 : (if n = 11 then
            ((expectKey kMeta r6).bind (decLen 0x80 0xde 0xdf)).bind fun (m, r) =>
              (decPairs m r).map fun (ps, r) => (some ps, r)
          else some (none, r6)) = some (v.metaMap, r7))
    (h8 : (expectKey kErrorCode r7).bind decSint = some (v.errorCode, r8))
    (h9 : (expectKey kSpanId r8).bind decUint = some (v.spanId, r9))
    (h10 : (expectKey kTraceId r9).bind decUint = some (v.traceId, r10))
    (h11 : (expectKey kParentId r10).bind decUint = some (v.parentId, r11)) :
    decSpan bs = some (v, r11) := by
  have hn' : ¬ (n ≠ 10 ∧ n ≠ 11) := fun h => hn.elim h.1 h.2
  simp only [decSpan, h0, hn', if_false, h1, h2, h3, h4, h5, h6, h7, h8, h9, h10, h11]

/-- an optional field `e`, left out when `b` holds: the map length 10 or 11 tells the decoder
    whether to read it -/
theorem optional_field {α : Type} (b : Bool) (e rest : Bytes) (v : α) (dec : Bytes → Option (Option α × Bytes))
    (h : dec (e ++ rest) = some (some v, rest)) :
    (if (if b then 10 else 11) = 11 then dec ((if b then [] else e) ++ rest)
      else some (none, (if b then [] else e) ++ rest)) = some (if b then none else some v, rest) := by
  cases b
  · exact h
  · rfl

theorem decSpan_encSpan (c : Cfg) (r : Record) (h : RecOk c r) : Reads decSpan (ddView c r) (encSpan c r) := by
  obtain ⟨⟨_, hsid, hpid, hb, hd, _⟩, hn, hs, hre, hty, hmeta, hmlen⟩ := h
  intro rest
  unfold encSpan
  -- outermost first, one step per field; `simp only` works from the inside and moves every
  -- field once per level
  repeat rw [List.append_assoc]
  exact decSpan_of_fields (decLen_map (by cases r.props.isEmpty <;> decide) _) (by cases r.props.isEmpty <;> decide)
    (field_roundtrip (decStr_mpStr hn))
    (field_roundtrip (decStr_mpStr hs))
    (field_roundtrip (decStr_mpStr hty))
    (field_roundtrip (decStr_mpStr hre))
    (field_roundtrip (decSint_mpSint hb))
    (field_roundtrip (decSint_mpSint hd))
    (optional_field _ _ _ _
      (fun bs => ((expectKey kMeta bs).bind (decLen 0x80 0xde 0xdf)).bind fun (m, r) =>
        (decPairs m r).map fun (ps, r) => (some ps, r))
      (by rw [List.append_assoc, List.append_assoc, field_roundtrip (decLen_map hmlen)]
          exact congrArg (Option.map _) (decPairs_enc _ hmeta _)))
    (field_roundtrip (decSint_mpSint (u := 0) (by decide)))
    (field_roundtrip (decUint_mpUint hsid))
    (field_roundtrip (decUint_mpUint (Nat.mod_lt _ (by decide))))
    (field_roundtrip (decUint_mpUint hpid))

def decSpans : Nat → Bytes → Option (List DdView × Bytes)
  | 0, bs => some ([], bs)
  | n + 1, bs =>
    match decSpan bs with
    | some (v, r1) =>
      match decSpans n r1 with
      | some (vs, r2) => some (v :: vs, r2)
      | none => none
    | none => none

theorem decSpans_enc (c : Cfg) (rs : List Record) (h : ∀ r ∈ rs, RecOk c r) :
    Reads (decSpans rs.length) (rs.map (ddView c)) (rs.flatMap (encSpan c)) := by
  intro rest
  induction rs with
  | nil => rfl
  | cons r rs ih =>
    obtain ⟨hr, hrs⟩ := List.forall_mem_cons.mp h
    simp only [List.length_cons, List.flatMap_cons, List.append_assoc, decSpans, decSpan_encSpan c r hr _,
      ih hrs, List.map_cons]

/-- the whole body: `[0x91]`, the array of span maps, nothing left over -/
def decodeBody (bs : Bytes) : Option (List DdView) :=
  match bs with
  | 0x91 :: rest =>
    match decLen 0x90 0xdc 0xdd rest with
    | some (n, r) =>
      match decSpans n r with
      | some (vs, []) => some vs
      | _ => none
    | none => none
  | _ => none

end Fastrace.Datadog
