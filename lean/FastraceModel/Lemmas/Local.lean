import FastraceModel.Model.Local

/-!
What each operation of `Model/Local.lean` does.  Ids are a prefix and a counter residue; queue
operations append one entry or rewrite one entry in place; line operations change the queue
only; stack operations act on the current line only (`List.modifyHead`), push a line or pop one.
-/
namespace Fastrace

/-- the `n`-th id drawn by a thread -/
def Ctr.idAfter (c : Ctr) (n : Nat) : Nat := c.pref * 2 ^ 32 + (c.suffix + n) % 2 ^ 32

/-- the generator state after `n` draws -/
def Ctr.after (c : Ctr) : Nat → Ctr
  | 0 => c
  | n + 1 => (c.after n).nextId.2

theorem mul_add_inj {m a b : Nat} (p q : Nat) (ha : a < m) (hb : b < m) :
    p * m + a = q * m + b ↔ p = q ∧ a = b := by
  refine ⟨fun h => ?_, fun h => by rw [h.1, h.2]⟩
  have hd := congrArg (· / m) h
  have hm := congrArg (· % m) h
  simp only [Nat.mul_add_mod_self_right, Nat.mod_eq_of_lt ha, Nat.mod_eq_of_lt hb] at hm
  simp only [Nat.mul_comm _ m, Nat.mul_add_div (Nat.zero_lt_of_lt ha), Nat.div_eq_of_lt ha, Nat.div_eq_of_lt hb,
    Nat.add_zero] at hd
  exact ⟨hd, hm⟩

theorem Ctr.idAfter_inj (c d : Ctr) (i j : Nat) :
    c.idAfter i = d.idAfter j ↔ c.pref = d.pref ∧ (c.suffix + i) % 2 ^ 32 = (d.suffix + j) % 2 ^ 32 :=
  mul_add_inj _ _ (Nat.mod_lt _ (Nat.two_pow_pos 32)) (Nat.mod_lt _ (Nat.two_pow_pos 32))

theorem Ctr.idAfter_eq_zero (c : Ctr) (n : Nat) :
    c.idAfter n = 0 ↔ c.pref = 0 ∧ (c.suffix + n) % 2 ^ 32 = 0 := by
  rw [Ctr.idAfter, Nat.add_eq_zero_iff, Nat.mul_eq_zero, or_iff_left (Nat.pos_iff_ne_zero.mp (Nat.two_pow_pos 32))]

theorem add_mod_ne {m s i j : Nat} (hij : i < j) (hj : j - i < m) : (s + i) % m ≠ (s + j) % m := by
  intro h
  have := Nat.sub_mod_eq_zero_of_mod_eq h.symm
  rw [Nat.add_sub_add_left, Nat.mod_eq_of_lt hj] at this
  omega

theorem nextId_ne_zero (c : Ctr) (h : 1 ≤ c.pref) : c.nextId.1 ≠ 0 :=
  fun e => Nat.ne_of_gt h ((c.idAfter_eq_zero 1).mp e).1

theorem Ctr.after_spec (c : Ctr) (n : Nat) :
    (c.after n).suffix % 2 ^ 32 = (c.suffix + n) % 2 ^ 32 ∧ (c.after n).pref = c.pref := by
  induction n with
  | zero => exact ⟨rfl, rfl⟩
  | succ n ih =>
    exact ⟨by simp only [Ctr.after, Ctr.nextId, Nat.mod_mod, ← Nat.add_assoc]; rw [Nat.add_mod, ih.1, ← Nat.add_mod], ih.2⟩

theorem Ctr.nextId_after (c : Ctr) (n : Nat) : (c.after n).nextId.1 = c.idAfter (n + 1) := by
  obtain ⟨h1, h2⟩ := c.after_spec n
  simp only [Ctr.nextId, Ctr.idAfter, h2, ← Nat.add_assoc]
  rw [Nat.add_mod, h1, ← Nat.add_mod]

namespace SpanQueue

/-- the entry `start_span` appends -/
def started (q : SpanQueue) (c : Ctr) (n : String) : RawSpan :=
  { id := c.nextId.1, parentId := q.nextParent.getD 0, beginT := c.clock + 1, name := n,
    props := none, kind := .span, endT := 0 }

theorem startSpan_eq_some {q : SpanQueue} {c : Ctr} {n : String} {r : SpanQueue × Nat × Ctr} :
    q.startSpan c n = some r ↔ q.spans.length < q.cap ∧
      r = ({ q with spans := q.spans ++ [q.started c n], nextParent := some c.nextId.1 }, q.spans.length,
           { c.nextId.2 with clock := c.clock + 1 }) := by
  unfold startSpan
  split
  · next hfull => exact ⟨nofun, fun h => absurd h.1 (Nat.not_lt.mpr hfull)⟩
  · next hroom =>
    rw [Option.some.injEq]
    exact ⟨fun h => ⟨Nat.lt_of_not_le hroom, h.symm⟩, fun h => h.2.symm⟩

theorem finishSpan_of_get {q : SpanQueue} {idx : Nat} {s : RawSpan} (h : q.spans[idx]? = some s) (c : Ctr) :
    q.finishSpan c idx = ({ q with spans := q.spans.set idx { s with endT := c.clock + 1 },
                                   nextParent := if s.parentId = 0 then none else some s.parentId },
                          { c with clock := c.clock + 1 }) := by
  simp only [finishSpan, h]; rfl

theorem addEvent_of_room {q : SpanQueue} (h : q.spans.length < q.cap) (c : Ctr) (n : String) (p : Option Props) :
    q.addEvent c n p = ({ q with spans := q.spans ++
        [⟨c.nextId.1, q.nextParent.getD 0, c.clock + 1, n, p, .event, 0⟩] }, { c.nextId.2 with clock := c.clock + 1 }) := by
  simp only [addEvent, ge_iff_le, Nat.not_le.mpr h, if_false]; rfl

theorem addProps_of_room {q : SpanQueue} (h : q.spans.length < q.cap) (c : Ctr) (kvs : Props) :
    q.addProps c kvs = ({ q with spans := q.spans ++
        [⟨c.nextId.1, q.nextParent.getD 0, 0, "", extendProps none kvs, .properties, 0⟩] }, c.nextId.2) := by
  simp only [addProps, ge_iff_le, Nat.not_le.mpr h, if_false]

end SpanQueue

/-- `finish_span` puts back the parent that was current when the span was started -/
theorem restore_parent {np : Option Nat} (h : np ≠ some 0) :
    (if np.getD 0 = 0 then none else some (np.getD 0)) = np := by
  cases np with
  | none => rfl
  | some p => exact if_neg fun e => h (congrArg some e)

namespace SpanLine

theorem startSpan_eq_some {l : SpanLine} {c : Ctr} {n : String} {l' : SpanLine} {h : LocalHandle} {c' : Ctr}
    (hs : l.startSpan c n = some (l', h, c')) : l.isSampled = true ∧
      ∃ q, l.queue.startSpan c n = some (q, h.index, c') ∧ l' = { l with queue := q } ∧ h.epoch = l.epoch := by
  unfold startSpan at hs
  split at hs
  · cases hs
  · next hsam =>
    split at hs
    · cases hs
    · next q idx c1 hq =>
      cases hs
      exact ⟨by simpa using hsam, q, hq, rfl, rfl⟩

theorem finishSpan_token (l : SpanLine) (c : Ctr) (h : LocalHandle) : (l.finishSpan c h).1.token = l.token := by
  unfold finishSpan; split <;> rfl

/-- a fresh scope has no open local span: its current token is the token it was registered with -/
theorem new_currentToken (cap e : Nat) (tok : Token) : (new cap e (some tok)).currentToken = some tok :=
  congrArg some (List.map_id' tok)

end SpanLine

namespace Stack

theorem exitSpan_fst (st : Stack) (c : Ctr) (h : LocalHandle) :
    (st.exitSpan c h).1 = { st with lines := st.lines.modifyHead fun l => (l.finishSpan c h).1 } := by
  obtain ⟨lines, _, _⟩ := st
  cases lines <;> rfl

theorem addEvent_fst (st : Stack) (c : Ctr) (n : String) (p : Option Props) :
    (st.addEvent c n p).1 = { st with lines := st.lines.modifyHead fun l => (l.addEvent c n p).1 } := by
  obtain ⟨lines, _, _⟩ := st
  cases lines <;> rfl

theorem addProps_fst (st : Stack) (c : Ctr) (kvs : Props) :
    (st.addProps c kvs).1 = { st with lines := st.lines.modifyHead fun l => (l.addProps c kvs).1 } := by
  obtain ⟨lines, _, _⟩ := st
  cases lines <;> rfl

theorem withProps_eq (st : Stack) (h : LocalHandle) (kvs : Props) :
    st.withProps h kvs = { st with lines := st.lines.modifyHead fun l => l.withProps h kvs } := by
  obtain ⟨lines, _, _⟩ := st
  cases lines <;> rfl

theorem enterSpan_eq_some {st : Stack} {c : Ctr} {n : String} {st' : Stack} {h : LocalHandle} {c' : Ctr}
    (hs : st.enterSpan c n = some (st', h, c')) :
    ∃ l ls l', st.lines = l :: ls ∧ l.startSpan c n = some (l', h, c') ∧ st' = { st with lines := l' :: ls } := by
  unfold enterSpan at hs
  split at hs
  · cases hs
  · next l ls hl =>
    split at hs
    · cases hs
    · next l1 h1 c1 hl1 => cases hs; exact ⟨l, ls, l1, hl, hl1, rfl⟩

theorem registerLine_eq_some {st : Stack} {tok : Option Token} {st' : Stack} {e : Nat} :
    st.registerLine tok = some (st', e) ↔ st.lines.length < st.cap ∧ e = st.nextEpoch ∧
      st' = { st with lines := SpanLine.new Consts.spanQueueSize st.nextEpoch tok :: st.lines,
                      nextEpoch := st.nextEpoch + 1 } := by
  unfold registerLine
  split
  · next hfull => exact ⟨nofun, fun h => absurd h.1 (Nat.not_lt.mpr hfull)⟩
  · next hroom =>
    rw [Option.some.injEq, Prod.mk.injEq]
    exact ⟨fun h => ⟨Nat.lt_of_not_le hroom, h.2.symm, h.1.symm⟩, fun h => ⟨h.2.2.symm, h.2.1.symm⟩⟩

theorem unregisterAndCollect_fst (st : Stack) (e : Nat) :
    (st.unregisterAndCollect e).1 = { st with lines := st.lines.tail } := by
  obtain ⟨lines, _, _⟩ := st
  cases lines <;> rfl

end Stack

theorem forall_mem_modifyHead {P : SpanLine → Prop} {f : SpanLine → SpanLine} {ls : List SpanLine}
    (hf : ∀ l, P l → P (f l)) (h : ∀ l ∈ ls, P l) : ∀ l ∈ ls.modifyHead f, P l := by
  cases ls with
  | nil => exact h
  | cons a as =>
    intro l hl
    rcases List.mem_cons.mp hl with rfl | hl
    · exact hf a (h a (List.mem_cons_self ..))
    · exact h l (List.mem_cons_of_mem _ hl)

end Fastrace
