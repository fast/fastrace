import FastraceModel.Model.Collector
import FastraceModel.Lemmas.AList

/-! facts about the record-building functions of the collector (`amend_*`, `mount_danglings`,
`postprocess_span_collection`); before them two facts about loops through which the collector's
`foldl`s are read (`foldl_proj`, `foldl_grows`) -/
namespace Fastrace

theorem foldl_proj {α β γ} (p : β → γ) {f : β → α → β} (h : ∀ b a, p (f b a) = p b) (l : List α) (b : β) :
    p (l.foldl f b) = p b :=
  List.foldlRecOn (motive := fun b' => p b' = p b) l f rfl fun _ hb a _ => (h _ a).trans hb

theorem foldl_grows {α β γ} (m : β → List γ) (g : α → List γ) {f : β → α → β}
    (step : ∀ b a, m (f b a) = m b ++ g a) (l : List α) (b : β) :
    m (l.foldl f b) = m b ++ l.flatMap g := by
  induction l generalizing b with
  | nil => simp
  | cons a l ih => rw [List.foldl_cons, ih, step, List.flatMap_cons, List.append_assoc]

/-- everything of a record except what attachments may change -/
structure Core where
  traceId : Nat
  spanId : Nat
  parentId : Nat
  beginNs : Nat
  durationNs : Nat
  name : String
deriving DecidableEq, Repr

def Record.core (r : Record) : Core := ⟨r.traceId, r.spanId, r.parentId, r.beginNs, r.durationNs, r.name⟩

theorem applyDangling_core (r : Record) (d : Dangling) : (applyDangling r d).core = r.core := by
  cases d <;> rfl

theorem foldl_applyDangling_core (items : List Dangling) (r : Record) :
    (items.foldl applyDangling r).core = r.core :=
  foldl_proj Record.core applyDangling_core items r

def Danglings.at (d : Danglings) (k : Nat) : List Dangling := (d.find? k).getD []

theorem Danglings.at_cons (k' k : Nat) (items : List Dangling) (d : Danglings) :
    Danglings.at ((k', items) :: d) k = if k' = k then items else d.at k :=
  (congrArg (Option.getD · []) (alGet_cons k' k items d)).trans (apply_ite (Option.getD · []) _ _ _)

theorem Danglings.at_push (d : Danglings) (k k2 : Nat) (item : Dangling) :
    (d.push k item).at k2 = if k = k2 then d.at k ++ [item] else d.at k2 := by
  induction d with
  | nil => exact Danglings.at_cons k k2 [item] []
  | cons e tl ih =>
    obtain ⟨k', items⟩ := e
    rw [Danglings.push, Danglings.at_cons k' k, Danglings.at_cons k' k2]
    by_cases h : k' = k
    · subst h
      rw [if_pos rfl, if_pos rfl, Danglings.at_cons]
      exact ite_congr rfl (fun _ => rfl) fun h => (if_neg h).symm
    · rw [if_neg h, if_neg h, Danglings.at_cons, ih]
      -- the two conditions exclude each other
      by_cases h2 : k' = k2
      · rw [if_pos h2, if_neg fun e => h (h2.trans e.symm), if_pos h2]
      · rw [if_neg h2, if_neg h2]

theorem Danglings.at_remove (d : Danglings) (k k2 : Nat) :
    (d.remove k).at k2 = if k2 = k then [] else d.at k2 := by
  rw [Danglings.at, show (d.remove k).find? k2 = _ from alGet_filter_ne d k2 k]
  exact apply_ite (Option.getD · []) _ _ _

/-- one record of `mount_danglings`: it takes what is parked under its id, and the id is removed -/
theorem mountDanglings_cons (r : Record) (rs : List Record) (d : Danglings) :
    mountDanglings (r :: rs) d =
      ((d.at r.spanId).foldl applyDangling r :: (mountDanglings rs (d.remove r.spanId)).1,
        (mountDanglings rs (d.remove r.spanId)).2) := by
  rw [mountDanglings, Danglings.at]
  cases hf : d.find? r.spanId with
  | some items => rfl
  | none => rw [show d.remove r.spanId = d from filter_ne_of_alGet_none d _ hf]; rfl

theorem mountDanglings_core (rs : List Record) (d : Danglings) :
    (mountDanglings rs d).1.map Record.core = rs.map Record.core := by
  induction rs generalizing d with
  | nil => rfl
  | cons r rs ih => rw [mountDanglings_cons, List.map_cons, List.map_cons, ih, foldl_applyDangling_core]

/-- the cores that one raw span of a local set contributes -/
def localCore (conv : Nat → Nat) (endT trace tokParent : Nat) (raw : RawSpan) : List Core :=
  match raw.kind with
  | .span =>
    [⟨trace, raw.id, if raw.parentId = 0 then tokParent else raw.parentId, conv raw.beginT,
      (if raw.endT = 0 then conv endT else conv raw.endT) - conv raw.beginT, raw.name⟩]
  | _ => []

theorem mem_spanKind {raw : RawSpan} {x k : Core} :
    k ∈ (match raw.kind with | .span => [x] | _ => []) ↔ raw.kind = .span ∧ k = x := by
  cases raw.kind <;> simp

theorem mem_localCore {conv : Nat → Nat} {endT trace p : Nat} {raw : RawSpan} {k : Core} :
    k ∈ localCore conv endT trace p raw ↔ raw.kind = .span ∧
      k = ⟨trace, raw.id, if raw.parentId = 0 then p else raw.parentId, conv raw.beginT,
        (if raw.endT = 0 then conv endT else conv raw.endT) - conv raw.beginT, raw.name⟩ :=
  mem_spanKind

theorem amendLocalOne_core (conv : Nat → Nat) (endT trace p : Nat) (acc : List Record × Danglings)
    (raw : RawSpan) :
    (amendLocalOne conv endT trace p acc raw).1.map Record.core
      = acc.1.map Record.core ++ localCore conv endT trace p raw := by
  unfold amendLocalOne localCore
  cases raw.kind
  · exact List.map_append
  · exact (List.append_nil _).symm
  · exact (List.append_nil _).symm

theorem amendLocal_core (conv : Nat → Nat) (spans : List RawSpan) (endT trace p : Nat)
    (acc : List Record × Danglings) :
    (amendLocal conv spans endT trace p acc).1.map Record.core
      = acc.1.map Record.core ++ spans.flatMap (localCore conv endT trace p) :=
  foldl_grows (fun acc : List Record × Danglings => acc.1.map Record.core) _ (amendLocalOne_core conv endT trace p) _ _

/-- the cores a thread-safe span's raw span contributes under one token item -/
def spanCore (conv : Nat → Nat) (trace parent : Nat) (raw : RawSpan) : List Core :=
  match raw.kind with
  | .span => [⟨trace, raw.id, parent, conv raw.beginT, conv raw.endT - conv raw.beginT, raw.name⟩]
  | _ => []

theorem mem_spanCore {conv : Nat → Nat} {trace p : Nat} {raw : RawSpan} {k : Core} :
    k ∈ spanCore conv trace p raw ↔ raw.kind = .span ∧
      k = ⟨trace, raw.id, p, conv raw.beginT, conv raw.endT - conv raw.beginT, raw.name⟩ :=
  mem_spanKind

theorem amendSpan_core (conv : Nat → Nat) (raw : RawSpan) (trace p : Nat) (acc : List Record × Danglings) :
    (amendSpan conv raw trace p acc).1.map Record.core
      = acc.1.map Record.core ++ spanCore conv trace p raw := by
  unfold amendSpan spanCore
  cases raw.kind
  · exact List.map_append
  · exact (List.append_nil _).symm
  · exact (List.append_nil _).symm

/-- what a collection contributes: its records' cores are a function of the span set and of
    the token item's `(trace, parent)` alone -/
def collectionCores (conv : Nat → Nat) (col : Collection) : List Core :=
  match col.spans with
  | .span raw => spanCore conv col.traceId col.parentId raw
  | .locals spans endT => spans.flatMap (localCore conv endT col.traceId col.parentId)

theorem collectionCores_trace (conv : Nat → Nat) (col : Collection) :
    ∀ k ∈ collectionCores conv col, k.traceId = col.traceId := by
  intro k hk
  unfold collectionCores at hk
  split at hk
  · exact (mem_spanCore.mp hk).2 ▸ rfl
  · obtain ⟨raw, _, h⟩ := List.mem_flatMap.mp hk
    exact (mem_localCore.mp h).2 ▸ rfl

theorem amendCollection_core (conv : Nat → Nat) (acc : List Record × Danglings) (col : Collection) :
    (amendCollection conv acc col).1.map Record.core
      = acc.1.map Record.core ++ collectionCores conv col := by
  unfold amendCollection collectionCores
  cases col.spans with
  | span raw => exact amendSpan_core conv raw _ _ acc
  | locals spans endT => exact amendLocal_core conv spans endT _ _ acc

theorem foldl_amendCollection_core (conv : Nat → Nat) (cols : List Collection)
    (acc : List Record × Danglings) :
    (cols.foldl (amendCollection conv) acc).1.map Record.core
      = acc.1.map Record.core ++ cols.flatMap (collectionCores conv) :=
  foldl_grows (fun acc : List Record × Danglings => acc.1.map Record.core) _ (amendCollection_core conv) _ _

/-- `postprocess_span_collection` appends exactly the cores of its collections, in order -/
theorem postprocess_core (conv : Nat → Nat) (cols : List Collection) (committed : List Record)
    (d : Danglings) :
    (postprocess conv cols committed d).1.map Record.core
      = committed.map Record.core ++ cols.flatMap (collectionCores conv) := by
  unfold postprocess
  simp only [List.map_append, mountDanglings_core]
  rw [foldl_amendCollection_core]
  simp

end Fastrace
