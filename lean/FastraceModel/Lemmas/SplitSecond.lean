import FastraceModel.Model.Api

/-!
`splitSecond` is one filter-and-map of the second-pass buffer, taken twice: each side keeps the
starts or not, the cancels some predicate admits, of every span set the token items another
predicate admits (dropping the command when none is left), and never a commit.  The facts about
either side are proved once, for `splitSide`.
-/
namespace Fastrace

/-- a `SubmitSpans` command restricted to the token items `p` admits; other commands unchanged -/
def Cmd.trim (p : SpanSet → TokenItem → Bool) : Cmd → Cmd
  | .submit sp tok => .submit sp (tok.filter (p sp))
  | c => c

/-- does (anything of) the command go to the side that takes starts iff `st`, the cancels `d`
    admits and the token items `p` admits? -/
def Cmd.passes (st : Bool) (d : Nat → Bool) (p : SpanSet → TokenItem → Bool) : Cmd → Bool
  | .start _ => st
  | .commit _ => false
  | .drop id => d id
  | .submit sp tok => !(tok.filter (p sp)).isEmpty

def splitSide (st : Bool) (d : Nat → Bool) (p : SpanSet → TokenItem → Bool) (l : List Cmd) : List Cmd :=
  (l.filter (Cmd.passes st d p)).map (Cmd.trim p)

theorem splitSide_cons (st : Bool) (d : Nat → Bool) (p : SpanSet → TokenItem → Bool) (x : Cmd) (xs : List Cmd) :
    splitSide st d p (x :: xs) = bif x.passes st d p then x.trim p :: splitSide st d p xs else splitSide st d p xs := by
  rw [splitSide, List.filter_cons]
  cases x.passes st d p <;> rfl

theorem splitSecond_eq (cb : Bool) (c1 c2 : Coll) (cm : List Nat) (l : List Cmd) :
    splitSecond cb c1 c2 cm l =
      (splitSide true c1.known (fun sp it => !carryItem cb c2 cm sp it) l,
       splitSide false (fun id => !c1.known id) (carryItem cb c2 cm) l) := by
  induction l with
  | nil => rfl
  | cons x xs ih =>
    rw [splitSide_cons, splitSide_cons, ← (Prod.mk.inj ih).1, ← (Prod.mk.inj ih).2]
    cases x with
    | start id => rfl
    | commit id => rfl
    | drop id =>
      show (if c1.known id then _ else _) = _
      dsimp only [Cmd.passes, Cmd.trim]
      cases c1.known id <;> rfl
    | submit sp tok =>
      show (_, _) = _
      dsimp only [Cmd.passes, Cmd.trim]
      generalize (List.filter _ tok).isEmpty = e1
      generalize (List.filter _ tok).isEmpty = e2
      cases e1 <;> cases e2 <;> rfl

variable {st : Bool} {d : Nat → Bool} {p : SpanSet → TokenItem → Bool} {l : List Cmd}

theorem mem_splitSide {y : Cmd} : y ∈ splitSide st d p l ↔ ∃ x ∈ l, x.passes st d p = true ∧ x.trim p = y := by
  simp only [splitSide, List.mem_map, List.mem_filter, and_assoc]

theorem forall_splitSide {P : Cmd → Prop} (hP : ∀ c, P c → P (c.trim p)) (h : ∀ c ∈ l, P c) :
    ∀ c ∈ splitSide st d p l, P c := fun c hc => by
  obtain ⟨x, hx, -, rfl⟩ := mem_splitSide.mp hc
  exact hP x (h x hx)

theorem commitsOf_splitSide : commitsOf (splitSide st d p l) = [] := by
  refine List.filterMap_eq_nil_iff.mpr fun y hy => ?_
  obtain ⟨x, -, hk, rfl⟩ := mem_splitSide.mp hy
  cases x with
  | commit _ => cases hk
  | _ => rfl

theorem startsOf_splitSide : startsOf (splitSide true d p l) = startsOf l := by
  rw [startsOf, splitSide, List.filterMap_map, List.filterMap_filter]
  refine congrArg (List.filterMap · l) (funext fun x => ?_)
  cases x with
  | start _ => rfl
  | _ => exact ite_self _

theorem drop_mem_splitSide {id : Nat} : Cmd.drop id ∈ splitSide st d p l ↔ Cmd.drop id ∈ l ∧ d id = true := by
  refine mem_splitSide.trans ⟨?_, fun h => ⟨_, h.1, h.2, rfl⟩⟩
  rintro ⟨x, hx, hk, e⟩
  cases x with
  | drop _ => cases e; exact ⟨hx, hk⟩
  | _ => cases e

theorem submit_mem_splitSide {sp : SpanSet} {tok : Token} (h : Cmd.submit sp tok ∈ splitSide st d p l) :
    ∀ it ∈ tok, p sp it = true := by
  obtain ⟨x, -, -, e⟩ := mem_splitSide.mp h
  cases x with
  | submit _ _ => cases e; exact fun it hit => (List.mem_filter.mp hit).2
  | _ => cases e

end Fastrace
