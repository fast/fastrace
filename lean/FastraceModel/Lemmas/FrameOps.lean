import FastraceModel.Lemmas.Frame
import FastraceModel.Lemmas.Threads

/-! every operation that does not itself open or close a guard preserves the frame; what `root`,
`rootFrom` and `childN` store (C02, C11) -/
namespace Fastrace

theorem Sys.rootOp_get (s : Sys) (t : Nat) (v n : String) (tr sp : Nat) (b : Bool)
    (hr : s.reporterReady = true) (hc : s.cyc = none) :
    ∃ raw cid, assocGet (s.rootOp t v n tr sp b).1.spans v = some (some ⟨raw, [⟨tr, sp, cid, true, b⟩], some cid⟩) := by
  have hl : s.regLocked = false := by rw [Sys.regLocked, hc]
  unfold Sys.rootOp
  rw [hr, hl]
  cases b
  · exact ⟨_, _, assocGet_assocSet_same _ _ _⟩
  · exact ⟨_, _, assocGet_assocSet_same _ _ _⟩

/-- `SpanContext::from_span`: first parent's trace and sampling decision, the span's own id -/
theorem ctxOfToken_issueToken (sp : SpanInner) :
    ctxOfToken (issueToken sp) = match sp.token with
      | [] => none
      | it :: _ => some ⟨it.traceId, sp.raw.id, it.isSampled⟩ := by
  rw [issueToken]; cases sp.token <;> rfl

theorem exec_rootFrom (s : Sys) (t : Nat) (v n p : String) (tp : Bool) (sp : SpanInner) (it : TokenItem) (rest : Token)
    (hp : assocGet s.spans p = some (some sp)) (htok : sp.token = it :: rest) :
    exec s t (.rootFrom v n p tp) = exec s t (.root v n it.traceId sp.raw.id it.isSampled) := by
  dsimp only [exec]; rw [hp]; dsimp only; rw [ctxOfToken_issueToken, htok]

/-- with every parent known, `enter_with_parents` is a no-op span or a new span under the
    concatenated token -/
theorem exec_childN (s : Sys) (t : Nat) (v n : String) (ps : List String)
    (hp : ∀ p ∈ ps, (assocGet s.spans p).isSome) :
    exec s t (.childN v n ps) =
      if (ps.flatMap s.tokenOfVar).isEmpty then ({ s with spans := assocSet s.spans v none }, .ok)
      else (s.newSpan t v n (ps.flatMap s.tokenOfVar) none, .ok) := by
  have : (ps.any fun p => (assocGet s.spans p).isNone) = false :=
    List.any_eq_false.mpr fun p hp' => by simp [Option.isSome_iff_ne_none.mp (hp p hp')]
  dsimp only [exec]; rw [this, if_neg Bool.false_ne_true]

theorem exec_plain_pres (s : Sys) (t : Nat) (op : Op) (hp : isPlain op = true) (hg : Good (s.th t)) :
    Pres (s.th t) ((exec s t op).1.th t) := by
  cases hc : op.isCollectorOp with
  | false => exact (exec_walk s t op hc).pres hp hg
  | true => exact .of_loc (congrArg Th.loc (exec_collectorOp_th s t t hc))

end Fastrace
