import FastraceModel.Lemmas.Collector

/-! the collector's bookkeeping over one cycle: `cycleProcess` as six phases, and for each phase what it does to the
configuration flags and to the set of active collect ids (what is emitted: `Lemmas/Groups.lean`, `Lemmas/Default.lean`) -/
namespace Fastrace

def Coll.keys (c : Coll) : List Nat := c.active.map (·.1)

theorem Coll.find?_insert (c : Coll) (id x : Nat) (a : Active) :
    (c.insert id a).find? x = if x = id then some a else c.find? x := alGet_set c.active x id a

theorem Coll.find?_remove (c : Coll) (id x : Nat) :
    (c.remove id).find? x = if x = id then none else c.find? x := alGet_filter_ne c.active x id

theorem Coll.find?_remove_same (c : Coll) (id : Nat) : (c.remove id).find? id = none :=
  (Coll.find?_remove c id id).trans (if_pos rfl)

theorem Coll.find?_isSome_iff (c : Coll) (id : Nat) : (c.find? id).isSome ↔ id ∈ c.keys := alGet_isSome c.active id

theorem Coll.mem_keys_of_find? {c : Coll} {id : Nat} {a : Active} (h : c.find? id = some a) : id ∈ c.keys :=
  (Coll.find?_isSome_iff c id).mp (h ▸ rfl)

theorem Coll.not_mem_keys {c : Coll} {id : Nat} (h : c.find? id = none) : id ∉ c.keys := fun hk =>
  Bool.false_ne_true (h ▸ (Coll.find?_isSome_iff c id).mpr hk : (none : Option Active).isSome = true)

theorem Coll.find?_some_mem (c : Coll) (id : Nat) (a : Active) (h : c.find? id = some a) :
    (id, a) ∈ c.active := alGet_mem h

theorem Coll.keys_remove (c : Coll) (id : Nat) : (c.remove id).keys = c.keys.filter (· != id) :=
  (List.filter_map (f := fun e : Nat × Active => e.1) (p := (· != id))).symm

theorem Coll.keys_insert (c : Coll) (id : Nat) (a : Active) :
    (c.insert id a).keys = c.keys.filter (· != id) ++ [id] := by
  rw [← Coll.keys_remove]; exact List.map_append

theorem Coll.mem_keys_remove (c : Coll) (id x : Nat) : x ∈ (c.remove id).keys ↔ x ∈ c.keys ∧ x ≠ id := by
  rw [Coll.keys_remove, List.mem_filter, bne_iff_ne]

theorem Coll.mem_keys_insert (c : Coll) (id x : Nat) (a : Active) :
    x ∈ (c.insert id a).keys ↔ x ∈ c.keys ∨ x = id := by
  rw [← Coll.find?_isSome_iff, ← Coll.find?_isSome_iff, Coll.find?_insert]
  by_cases h : x = id
  · simp only [h, if_true, Option.isSome_some, or_true]
  · simp only [h, if_false, or_false]

@[simp] theorem insert_cancelable (c : Coll) (id : Nat) (a : Active) : (c.insert id a).cancelable = c.cancelable := rfl
@[simp] theorem remove_cancelable (c : Coll) (id : Nat) : (c.remove id).cancelable = c.cancelable := rfl
@[simp] theorem insert_hasReporter (c : Coll) (id : Nat) (a : Active) : (c.insert id a).hasReporter = c.hasReporter := rfl
@[simp] theorem remove_hasReporter (c : Coll) (id : Nat) : (c.remove id).hasReporter = c.hasReporter := rfl

theorem mem_dropsOf (id : Nat) (l : List Cmd) : id ∈ dropsOf l ↔ Cmd.drop id ∈ l := by
  refine List.mem_filterMap.trans ⟨?_, fun h => ⟨_, h, rfl⟩⟩
  rintro ⟨x, hx, e⟩
  cases x with
  | drop _ => cases e; exact hx
  | _ => cases e

def phaseStarts (c : Coll) (batch : List Cmd) : Coll :=
  (startsOf batch).foldl (fun c id => c.insert id Active.empty) c
def phaseDrops (c : Coll) (batch : List Cmd) : Coll :=
  (dropsOf batch).foldl (fun c id => if c.cancelable then c.remove id else c) c

/-- collector state after the start / drop / submit loops of a cycle -/
def afterSubmits (c : Coll) (batch : List Cmd) : Coll × List Collection :=
  (submitsOf batch).foldl processSubmit (phaseDrops (phaseStarts c batch) batch, [])

/-- ... and after the commit loop, with the records of the committed traces -/
def afterCommits (conv : Nat → Nat) (c : Coll) (batch : List Cmd) : Coll × List Record :=
  (commitsOf batch).foldl (processCommit conv) ((afterSubmits c batch).1, [])

/-- the flush of the default configuration -/
def flushAll (conv : Nat → Nat) (st : Coll × List Record) : Coll × List Record :=
  if st.1.cancelable then st
  else
    let f := st.1.active.foldl (flushActive conv) ([], st.2)
    ({ st.1 with active := f.1 }, f.2)

/-- the span sets that found no entry are reported last, each by a call of its own -/
def reportStale (conv : Nat → Nat) (stale : List Collection) (recs : List Record) : List Record :=
  stale.foldl (fun recs col => (postprocess conv [col] recs []).1) recs

theorem cycleProcess_eq (conv : Nat → Nat) (c : Coll) (batch : List Cmd) (h : c.hasReporter = true) :
    cycleProcess conv c batch =
      ((flushAll conv (afterCommits conv c batch)).1,
       some (reportStale conv (afterSubmits c batch).2 (flushAll conv (afterCommits conv c batch)).2)) := by
  unfold cycleProcess
  rw [h]
  rfl

theorem flushAll_cancelable (conv : Nat → Nat) (st : Coll × List Record) (h : st.1.cancelable = true) :
    flushAll conv st = st := if_pos h

theorem cycleProcess_off (conv : Nat → Nat) (c : Coll) (batch : List Cmd) (h : c.hasReporter = false) :
    cycleProcess conv c batch = (c, none) := by
  simp [cycleProcess, h]

def Coll.flags (c : Coll) : Bool × Bool := (c.cancelable, c.hasReporter)

theorem submitItem_flags (cb : Bool) (spans : SpanSet) (st : Coll × List Collection) (it : TokenItem) :
    (submitItem cb spans st it).1.flags = st.1.flags := by
  unfold submitItem
  cases st.1.find? it.collectId with
  | some a => rfl
  | none => cases cb <;> rfl

theorem processSubmit_flags (st : Coll × List Collection) (sub : SpanSet × Token) :
    (processSubmit st sub).1.flags = st.1.flags :=
  foldl_proj (fun st : Coll × List Collection => st.1.flags) (submitItem_flags _ _) _ _

theorem processCommit_flags (conv : Nat → Nat) (st : Coll × List Record) (id : Nat) :
    (processCommit conv st id).1.flags = st.1.flags := by
  unfold processCommit
  cases st.1.find? id <;> rfl

theorem phaseStarts_flags (c : Coll) (batch : List Cmd) : (phaseStarts c batch).flags = c.flags :=
  foldl_proj Coll.flags (f := fun c id => c.insert id Active.empty) (fun _ _ => rfl) _ _

theorem phaseDrops_flags (c : Coll) (batch : List Cmd) : (phaseDrops c batch).flags = c.flags :=
  foldl_proj Coll.flags (fun c _ => by split <;> rfl) _ _

theorem afterSubmits_flags (c : Coll) (batch : List Cmd) : (afterSubmits c batch).1.flags = c.flags :=
  (foldl_proj (fun st : Coll × List Collection => st.1.flags) processSubmit_flags _ _).trans
    ((phaseDrops_flags _ _).trans (phaseStarts_flags _ _))

theorem afterCommits_flags (conv : Nat → Nat) (c : Coll) (batch : List Cmd) :
    (afterCommits conv c batch).1.flags = c.flags :=
  (foldl_proj (fun st : Coll × List Record => st.1.flags) (processCommit_flags conv) _ _).trans
    (afterSubmits_flags c batch)

theorem flushAll_flags (conv : Nat → Nat) (st : Coll × List Record) : (flushAll conv st).1.flags = st.1.flags := by
  unfold flushAll
  cases st.1.cancelable <;> rfl

theorem cycleProcess_flags (conv : Nat → Nat) (c : Coll) (batch : List Cmd) :
    (cycleProcess conv c batch).1.flags = c.flags := by
  cases h : c.hasReporter with
  | true => rw [cycleProcess_eq conv c batch h]; exact (flushAll_flags ..).trans (afterCommits_flags ..)
  | false => rw [cycleProcess_off conv c batch h]

theorem cycleProcess_hasReporter (conv : Nat → Nat) (c : Coll) (batch : List Cmd) :
    (cycleProcess conv c batch).1.hasReporter = c.hasReporter :=
  congrArg Prod.snd (cycleProcess_flags conv c batch)

theorem cycleProcess_cancelable (conv : Nat → Nat) (c : Coll) (batch : List Cmd) :
    (cycleProcess conv c batch).1.cancelable = c.cancelable :=
  congrArg Prod.fst (cycleProcess_flags conv c batch)

theorem phaseStarts_cancelable (c : Coll) (batch : List Cmd) : (phaseStarts c batch).cancelable = c.cancelable :=
  congrArg Prod.fst (phaseStarts_flags c batch)

theorem foldl_drop_cancelable (ids : List Nat) (c : Coll) :
    (ids.foldl (fun c id => if c.cancelable then c.remove id else c) c).cancelable = c.cancelable :=
  foldl_proj Coll.cancelable (fun c _ => by split <;> rfl) ids c

theorem phaseStarts_keys (c : Coll) (batch : List Cmd) (x : Nat) :
    x ∈ (phaseStarts c batch).keys ↔ x ∈ c.keys ∨ x ∈ startsOf batch := by
  unfold phaseStarts
  induction startsOf batch generalizing c with
  | nil => simp
  | cons i is ih => rw [List.foldl_cons, ih, Coll.mem_keys_insert, List.mem_cons, or_assoc]

theorem phaseDrops_default (c : Coll) (batch : List Cmd) (hc : c.cancelable = false) : phaseDrops c batch = c := by
  unfold phaseDrops
  induction dropsOf batch with
  | nil => rfl
  | cons i is ih => rw [List.foldl_cons, hc]; exact ih

theorem phaseDrops_keys (c : Coll) (batch : List Cmd) (x : Nat) :
    x ∈ (phaseDrops c batch).keys ↔ x ∈ c.keys ∧ (c.cancelable = true → x ∉ dropsOf batch) := by
  cases hc : c.cancelable with
  | false =>
    rw [phaseDrops_default c batch hc]
    exact ⟨fun h => ⟨h, fun e => absurd e Bool.false_ne_true⟩, And.left⟩
  | true =>
    refine Iff.trans ?_ (and_congr_right fun _ => (imp_iff_right rfl).symm)
    unfold phaseDrops
    induction dropsOf batch generalizing c with
    | nil => exact ⟨fun h => ⟨h, List.not_mem_nil⟩, And.left⟩
    | cons i is ih =>
      rw [List.foldl_cons, hc, if_pos rfl, ih (c.remove i) hc, Coll.mem_keys_remove, List.mem_cons, not_or, and_assoc]

/-- submits only touch entries that exist: the key set is unchanged -/
theorem submitItem_keys (cancelable : Bool) (spans : SpanSet) (st : Coll × List Collection) (it : TokenItem) (x : Nat) :
    x ∈ (submitItem cancelable spans st it).1.keys ↔ x ∈ st.1.keys := by
  unfold submitItem
  cases h : st.1.find? it.collectId with
  | some a =>
    rw [Coll.mem_keys_insert]
    exact ⟨fun o => o.elim id (· ▸ Coll.mem_keys_of_find? h), Or.inl⟩
  | none => cases cancelable <;> rfl

theorem processSubmit_keys (st : Coll × List Collection) (sub : SpanSet × Token) (x : Nat) :
    x ∈ (processSubmit st sub).1.keys ↔ x ∈ st.1.keys :=
  List.foldlRecOn (motive := fun st' : Coll × List Collection => x ∈ st'.1.keys ↔ x ∈ st.1.keys) sub.2
    (submitItem st.1.cancelable sub.1) Iff.rfl fun st' h it _ => (submitItem_keys _ _ st' it x).trans h

theorem foldl_processSubmit_keys (subs : List (SpanSet × Token)) (st : Coll × List Collection) (x : Nat) :
    x ∈ (subs.foldl processSubmit st).1.keys ↔ x ∈ st.1.keys :=
  List.foldlRecOn (motive := fun st' : Coll × List Collection => x ∈ st'.1.keys ↔ x ∈ st.1.keys) subs processSubmit
    Iff.rfl fun st' h sub _ => (processSubmit_keys st' sub x).trans h

theorem afterSubmits_keys (c : Coll) (batch : List Cmd) (x : Nat) :
    x ∈ (afterSubmits c batch).1.keys ↔ (x ∈ c.keys ∨ x ∈ startsOf batch) ∧ (c.cancelable = true → x ∉ dropsOf batch) := by
  rw [afterSubmits, foldl_processSubmit_keys, phaseDrops_keys, phaseStarts_keys, phaseStarts_cancelable]

theorem processCommit_keys (conv : Nat → Nat) (st : Coll × List Record) (id x : Nat) :
    x ∈ (processCommit conv st id).1.keys ↔ x ∈ st.1.keys ∧ x ≠ id := by
  unfold processCommit
  cases h : st.1.find? id with
  | some a => exact Coll.mem_keys_remove ..
  | none =>
    exact ⟨fun hx => ⟨hx, fun e => Coll.not_mem_keys h (e ▸ hx)⟩, And.left⟩

theorem foldl_processCommit_keys (conv : Nat → Nat) (ids : List Nat) (st : Coll × List Record) (x : Nat) :
    x ∈ (ids.foldl (processCommit conv) st).1.keys ↔ x ∈ st.1.keys ∧ x ∉ ids := by
  induction ids generalizing st with
  | nil => simp
  | cons i is ih => rw [List.foldl_cons, ih, processCommit_keys, List.mem_cons, not_or, and_assoc]

theorem afterCommits_keys (conv : Nat → Nat) (c : Coll) (batch : List Cmd) (x : Nat) :
    x ∈ (afterCommits conv c batch).1.keys ↔ x ∈ (afterSubmits c batch).1.keys ∧ x ∉ commitsOf batch :=
  foldl_processCommit_keys conv _ _ x

theorem flushAll_keys (conv : Nat → Nat) (st : Coll × List Record) : (flushAll conv st).1.keys = st.1.keys := by
  unfold flushAll
  cases st.1.cancelable
  · exact (foldl_grows (fun f : List (Nat × Active) × List Record => f.1.map (·.1)) (fun e => [e.1])
      (f := flushActive conv) (fun _ _ => List.map_append) st.1.active ([], st.2)).trans List.map_eq_flatMap.symm
  · rfl

/-- **which collect ids are retained after a cycle**: those that were active or started in
    this batch, minus those committed, minus (when cancelable) those dropped -/
theorem cycleProcess_keys (conv : Nat → Nat) (c : Coll) (batch : List Cmd) (h : c.hasReporter = true) (x : Nat) :
    x ∈ (cycleProcess conv c batch).1.keys ↔
      (x ∈ c.keys ∨ x ∈ startsOf batch) ∧ (c.cancelable = true → x ∉ dropsOf batch) ∧ x ∉ commitsOf batch := by
  rw [cycleProcess_eq conv c batch h, flushAll_keys, afterCommits_keys, afterSubmits_keys, and_assoc]

end Fastrace
