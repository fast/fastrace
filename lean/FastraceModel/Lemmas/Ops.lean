import FastraceModel.Lemmas.Rings
import FastraceModel.Lemmas.Ring
import FastraceModel.Lemmas.Frame

/-!
Every operation of a thread, walked once.  An operation of thread `t` is a sequence of a few elementary updates
(`Moves`), and along the way it only ever *re-issues* the collect tokens it finds in span handles, adapters and span
lines: the parent id is replaced, tokens of several parents are concatenated, a root is made from a context.
`exec_toks` says both at once, for any predicate `Q` on tokens that re-issuing keeps: the span sets sent go out under
`Q`-tokens (`CmdQ Q`), the tokens held afterwards are `Q`-tokens, the answer reveals only `Q`-tokens; and an operation
that opens or closes no guard (`isPlain`) preserves the frame of `Lemmas/Frame.lean`.  `exec_walk` and `exec_moves`
forget the tokens.
-/
namespace Fastrace

/-- finish / cancel signals: the commands sent with `force_send_command` -/
def Cmd.isSignal : Cmd → Bool
  | .commit _ => true
  | .drop _ => true
  | _ => false

/-- the end of `Sys.exitThread`, once the guards are released: the TLS destructor of `COMMAND_SENDER` -/
def Sys.senderExit (s : Sys) (t : Nat) : Sys :=
  let th := s.th t
  let s := s.setTh t { th with guards := [], alive := false, pending := [] }
  if th.registered then
    match s.ringOf t with
    | some r => (s.setRing t (r.senderDrop th.pending)).withG { s.g with lostAtExit := r.senderDropLost th.pending ++ s.g.lostAtExit }
    | none => s.withG { s.g with lostAtExit := th.pending ++ s.g.lostAtExit }
  else s.withG { s.g with lostAtExit := th.pending ++ s.g.lostAtExit }

theorem Sys.exitThread_eq (s : Sys) (t : Nat) :
    s.exitThread t = ((s.th t).guards.foldl (fun s g => s.closeGuard t g) s).senderExit t := rfl

/-- Sequences of elementary updates by thread `t`; every command sent satisfies `C`.  What `setTh` and `fields` must
    leave alone is exactly what the channel invariants (`ChanInv`, `FifoInv`, `Flight`) read: so `pending`, `alive`,
    `registered`, `deferred`, `carried`, `g` appear and `parkedCancels`, `nextCollect` do not.  `send` is one step:
    conservation holds for `sendCmd` as a whole, not for its `setRing` / `setTh` parts. -/
inductive Moves (C : Cmd → Prop) (t : Nat) : Sys → Sys → Prop
  | refl (s : Sys) : Moves C t s s
  | trans {a b c : Sys} : Moves C t a b → Moves C t b c → Moves C t a c
  | setTh (s : Sys) (th' : Th) : th'.pending = (s.th t).pending → th'.alive = (s.th t).alive →
      th'.registered = (s.th t).registered → Moves C t s (s.setTh t th')
  | fields {s s' : Sys} : s'.cyc = s.cyc → s'.rxs = s.rxs → s'.threads = s.threads → s'.deferred = s.deferred → s'.g = s.g →
      s'.coll = s.coll → s'.carried = s.carried → s'.reporterReady = s.reporterReady → Moves C t s s'
  | send (s : Sys) (cmd : Cmd) (forced : Bool) : (forced = true → cmd.isSignal = true) → C cmd →
      Moves C t s (s.sendCmd t cmd forced)
  | register {s s' : Sys} : s.register t = some s' → Moves C t s s'
  | senderExit (s : Sys) : Moves C t s (s.senderExit t)

/-- what the channel operations leave alone: the user-side tables, the configuration, every thread's recording state -/
structure Untouched (s s' : Sys) : Prop where
  spans : s'.spans = s.spans
  adapters : s'.adapters = s.adapters
  ready : s'.reporterReady = s.reporterReady
  coll : s'.coll = s.coll
  loc : ∀ t, (s'.th t).loc = (s.th t).loc

theorem Untouched.refl (s : Sys) : Untouched s s := ⟨rfl, rfl, rfl, rfl, fun _ => rfl⟩

theorem Untouched.trans {a b c : Sys} (h1 : Untouched a b) (h2 : Untouched b c) : Untouched a c :=
  ⟨h2.spans.trans h1.spans, h2.adapters.trans h1.adapters, h2.ready.trans h1.ready, h2.coll.trans h1.coll,
   fun t => (h2.loc t).trans (h1.loc t)⟩

theorem Untouched.same {s s1 s2 : Sys} (h : Untouched s s1) (h1 : s2.spans = s1.spans) (h2 : s2.adapters = s1.adapters)
    (h3 : s2.reporterReady = s1.reporterReady) (h4 : s2.coll = s1.coll) (h5 : s2.threads = s1.threads) : Untouched s s2 :=
  ⟨h1.trans h.spans, h2.trans h.adapters, h3.trans h.ready, h4.trans h.coll, fun t => by rw [Sys.th_congr h5]; exact h.loc t⟩

theorem Untouched.setTh {s s1 : Sys} (h : Untouched s s1) (t : Nat) (th : Th) (hl : th.loc = (s.th t).loc) :
    Untouched s (s1.setTh t th) :=
  ⟨h.spans, h.adapters, h.ready, h.coll, Sys.th_setTh_ind (P := fun t2 th' => th'.loc = (s.th t2).loc) hl h.loc⟩

theorem Sys.register_untouched {s s' : Sys} {t : Nat} (h : s.register t = some s') : Untouched s s' := by
  rcases Sys.register_cases h with rfl | ⟨_, e, _⟩
  · exact .refl _
  · rw [e]; exact ((Untouched.refl s).setTh t { s.th t with registered := true } rfl).same rfl rfl rfl rfl rfl

/-- `send_command` in outline.  The thread registers if it has not (`s1`); then either only the history variables change
    (the drain holds the registry lock, or the receiver is gone), or thread `t`'s ring and overflow list are replaced by
    ones that together hold nothing but what the two held and the command. -/
theorem Sys.sendCmd_ind {P : Sys → Prop} (s : Sys) (t : Nat) (cmd : Cmd) (f : Bool)
    (hside : ∀ s1 g, (s1 = s ∨ s.register t = some s1) → P (s1.withG g))
    (hsend : ∀ s1 r r' p g, (s1 = s ∨ s.register t = some s1) → s1.ringOf t = some r →
      (∀ y ∈ r'.q ++ p, y ∈ r.q ++ (s1.th t).pending ++ [cmd]) →
      P (((s1.setRing t r').setTh t { s1.th t with pending := p }).withG g)) : P (s.sendCmd t cmd f) := by
  unfold Sys.sendCmd
  cases hreg : s.register t with
  | none => exact hside s _ (.inl rfl)
  | some s1 =>
    dsimp only
    cases hring : s1.ringOf t with
    | none => exact hside s1 _ (.inr hreg)
    | some r =>
      dsimp only
      -- (`split` on the `if` is much slower to check)
      cases f with
      | true => exact hsend s1 r _ _ _ (.inr hreg) hring fun y hy => Ring.forceSend_seq r _ cmd ▸ hy
      | false => exact hsend s1 r _ _ _ (.inr hreg) hring (Ring.send_sub r _ cmd)

theorem Sys.sendCmd_untouched (s : Sys) (t : Nat) (cmd : Cmd) (f : Bool) : Untouched s (s.sendCmd t cmd f) := by
  have hu : ∀ {s1}, s1 = s ∨ s.register t = some s1 → Untouched s s1 :=
    fun h1 => h1.elim (fun e => e ▸ .refl s) Sys.register_untouched
  refine s.sendCmd_ind t cmd f (fun s1 g h1 => (hu h1).same rfl rfl rfl rfl rfl) fun s1 r r' p g h1 _ _ => ?_
  rw [Sys.setRing_frame]
  exact (((hu h1).same rfl rfl rfl rfl rfl).setTh t { s1.th t with pending := p } ((hu h1).loc t)).same rfl rfl rfl rfl rfl

/-- dropping the sender: the thread's entry is cleared; what was parked goes to its registered ring as far as there
    is room, and is lost otherwise -/
theorem Sys.senderExit_cases (s : Sys) (t : Nat) :
    (∃ r, (s.setTh t { s.th t with guards := [], alive := false, pending := [] }).ringOf t = some r ∧
      s.senderExit t = ((s.setTh t { s.th t with guards := [], alive := false, pending := [] }).setRing t
          (r.senderDrop (s.th t).pending)).withG
        { s.g with lostAtExit := r.senderDropLost (s.th t).pending ++ s.g.lostAtExit }) ∨
    s.senderExit t = (s.setTh t { s.th t with guards := [], alive := false, pending := [] }).withG
      { s.g with lostAtExit := (s.th t).pending ++ s.g.lostAtExit } := by
  unfold Sys.senderExit
  dsimp only
  by_cases hreg : (s.th t).registered = true
  · rw [if_pos hreg]
    cases hr : (s.setTh t { s.th t with guards := [], alive := false, pending := [] }).ringOf t with
    | some r => exact .inl ⟨r, rfl, rfl⟩
    | none => exact .inr rfl
  · rw [if_neg hreg]; exact .inr rfl

theorem Sys.senderExit_frame (s : Sys) (t : Nat) : ∃ rxs cyc g,
    s.senderExit t = { s.setTh t { s.th t with guards := [], alive := false, pending := [] } with rxs := rxs, cyc := cyc, g := g } := by
  rcases s.senderExit_cases t with ⟨r, -, e⟩ | e <;> rw [e]
  · rw [Sys.setRing_frame]; exact ⟨_, _, _, rfl⟩
  · exact ⟨_, _, _, rfl⟩

theorem Sys.putCtr_untouched (s : Sys) (t : Nat) (c : Ctr) : Untouched s (s.putCtr t c) :=
  ((Untouched.refl s).setTh t { s.th t with suffix := c.suffix } rfl).same rfl rfl rfl rfl rfl

theorem Sys.submitSpans_untouched (s : Sys) (t : Nat) (sp : SpanSet) (tok : Token) : Untouched s (s.submitSpans t sp tok) := by
  unfold Sys.submitSpans
  exact iteInduction (fun _ => .refl s) fun _ => s.sendCmd_untouched t _ false

theorem Sys.dropSpanVal_untouched (s : Sys) (t : Nat) (sv : SpanVal) : Untouched s (s.dropSpanVal t sv) := by
  unfold Sys.dropSpanVal
  cases sv with
  | none => exact .refl s
  | some sp =>
    dsimp only
    have h := (s.putCtr_untouched t ((s.ctr t).now).2).trans
      (Sys.submitSpans_untouched _ t (.span { sp.raw with endT := ((s.ctr t).now).1 }) sp.token)
    cases sp.collectId with
    | none => exact h
    | some cid => exact h.trans (Sys.sendCmd_untouched _ t _ true)

def StackAll (P : Option Token → Prop) (st : Stack) : Prop := ∀ l ∈ st.lines, P l.token

theorem StackAll.modifyHead {P : Option Token → Prop} {st : Stack} (hok : StackAll P st) {f : SpanLine → SpanLine}
    (hf : ∀ l : SpanLine, (f l).token = l.token) : StackAll P { st with lines := st.lines.modifyHead f } :=
  forall_mem_modifyHead (P := fun l => P l.token) (fun l hl => hf l ▸ hl) hok

theorem StackAll.enterSpan {P : Option Token → Prop} {st st' : Stack} {c c' : Ctr} {n : String} {h : LocalHandle}
    (hok : StackAll P st) (hs : st.enterSpan c n = some (st', h, c')) : StackAll P st' := by
  obtain ⟨l, ls, l', hl, hl', rfl⟩ := Stack.enterSpan_eq_some hs
  obtain ⟨-, q, -, rfl, -⟩ := SpanLine.startSpan_eq_some hl'
  intro x hx
  rcases List.mem_cons.mp hx with rfl | hx
  · exact hok l (hl ▸ List.mem_cons_self)
  · exact hok x (hl ▸ List.mem_cons_of_mem _ hx)

theorem StackAll.exitSpan {P : Option Token → Prop} {st : Stack} (hok : StackAll P st) (c : Ctr) (h : LocalHandle) :
    StackAll P (st.exitSpan c h).1 := by
  rw [Stack.exitSpan_fst]; exact hok.modifyHead fun l => l.finishSpan_token c h

theorem StackAll.addEvent {P : Option Token → Prop} {st : Stack} (hok : StackAll P st) (c : Ctr) (n : String)
    (p : Option Props) : StackAll P (st.addEvent c n p).1 := by
  rw [Stack.addEvent_fst]; exact hok.modifyHead fun l => (l.addEvent_ext c n p).token

theorem StackAll.addProps {P : Option Token → Prop} {st : Stack} (hok : StackAll P st) (c : Ctr) (kvs : Props) :
    StackAll P (st.addProps c kvs).1 := by
  rw [Stack.addProps_fst]; exact hok.modifyHead fun l => (l.addProps_ext c kvs).token

theorem StackAll.withProps {P : Option Token → Prop} {st : Stack} (hok : StackAll P st) (h : LocalHandle) (kvs : Props) :
    StackAll P (st.withProps h kvs) := by
  rw [Stack.withProps_eq]; exact hok.modifyHead fun l => (l.withProps_ext h kvs).token

theorem StackAll.registerLine {P : Option Token → Prop} {st st' : Stack} {tok : Option Token} {e : Nat}
    (hok : StackAll P st) (ht : P tok) (hr : st.registerLine tok = some (st', e)) : StackAll P st' := by
  obtain ⟨-, -, rfl⟩ := Stack.registerLine_eq_some.mp hr
  exact List.forall_mem_cons.mpr ⟨ht, hok⟩

/-- a closing scope hands back the token it was opened with -/
theorem StackAll.unregister {P : Option Token → Prop} {st : Stack} (hok : StackAll P st) (e : Nat) :
    StackAll P (st.unregisterAndCollect e).1 ∧
    ∀ spans tok, (st.unregisterAndCollect e).2 = some (spans, tok) → P tok := by
  refine ⟨by rw [Stack.unregisterAndCollect_fst]; exact fun x hx => hok x (List.mem_of_mem_tail hx), ?_⟩
  unfold Stack.unregisterAndCollect
  cases hl : st.lines with
  | nil => exact fun _ _ h => nomatch h
  | cons l ls =>
    intro spans tok hc
    dsimp only at hc
    unfold SpanLine.collect at hc
    split at hc
    · cases hc; exact hok l (hl ▸ List.mem_cons_self)
    · cases hc

/-- what the span API does to collect tokens keeps `Q`: re-issue under another parent, concatenate the tokens of
    several parents, make a root from an extracted context -/
structure TokClosed (Q : Token → Prop) : Prop where
  map : ∀ {tok : Token} (f : TokenItem → TokenItem),
    (∀ it, (f it).traceId = it.traceId ∧ (f it).isSampled = it.isSampled) → Q tok → Q (tok.map f)
  flatten : ∀ toks : List Token, (∀ tok ∈ toks, tok = [] ∨ Q tok) → toks.flatten ≠ [] → Q toks.flatten
  head : ∀ {it : TokenItem} {rest : Token}, Q (it :: rest) → ∀ p cid r, Q [⟨it.traceId, p, cid, r, it.isSampled⟩]

def LineQ (Q : Token → Prop) (o : Option Token) : Prop := ∀ tok, o = some tok → Q tok
def SvQ (Q : Token → Prop) (sv : SpanVal) : Prop := ∀ sp, sv = some sp → Q sp.token

structure Toks (Q : Token → Prop) (s : Sys) : Prop where
  spans : ∀ e ∈ s.spans, SvQ Q e.2
  adapters : ∀ e ∈ s.adapters, ∀ sv, e.2.span = some sv → SvQ Q sv
  lines : ∀ t, StackAll (LineQ Q) (s.th t).stack

/-- what an observation may reveal: nothing is reported by a thread operation, and whatever shows that something
    records (a context, `elapsed()`, a closure run by a span handle) comes from a `Q`-token -/
structure ObsQ (Q : Token → Prop) (op : Op) (o : Obs) : Prop where
  report : ∀ r, o ≠ .report r
  ctx : ∀ c, o = .ctx (some c) → ∃ tok, Q tok ∧ ctxOfToken tok = some c
  elapsed : o = .elapsed true → ∃ tok, Q tok
  closure : (∃ v cl, op = .withProps v cl ∨ op = .addProps v cl) → o = .closure true → ∃ tok, Q tok

/-- observations that show no recording at all -/
def Obs.inert : Obs → Bool
  | .report _ => false
  | .ctx (some _) => false
  | .elapsed true => false
  | .closure true => false
  | _ => true

theorem obsQ_of_inert {Q : Token → Prop} {op : Op} {o : Obs} (h : o.inert = true) : ObsQ Q op o :=
  ⟨fun r e => (by subst e; cases h), fun c e => (by subst e; cases h), fun e => (by subst e; cases h),
   fun _ e => (by subst e; cases h)⟩

theorem ObsQ.ofCtx {Q : Token → Prop} {op : Op} {tok : Token} (h : Q tok) : ObsQ Q op (.ctx (ctxOfToken tok)) where
  report _ e := nomatch e
  ctx _ e := ⟨tok, h, Obs.ctx.inj e⟩
  elapsed e := nomatch e
  closure _ e := nomatch e

theorem ObsQ.ofElapsed {Q : Token → Prop} {op : Op} {b : Bool} (h : b = true → ∃ tok, Q tok) : ObsQ Q op (.elapsed b) where
  report _ e := nomatch e
  ctx _ e := nomatch e
  elapsed e := h (by cases e; rfl)
  closure _ e := nomatch e

/-- a closure has run: offered to a span handle with a `Q`-token, or to a local span -/
theorem ObsQ.ofClosure {Q : Token → Prop} {op : Op} {b : Bool}
    (h : (∃ v cl, op = .withProps v cl ∨ op = .addProps v cl) → ∃ tok, Q tok) : ObsQ Q op (.closure b) where
  report _ e := nomatch e
  ctx _ e := nomatch e
  elapsed e := nomatch e
  closure ho _ := h ho

section toks
variable {Q : Token → Prop} {s : Sys}

theorem svQ_none : SvQ Q none := fun _ h => by cases h

theorem Toks.init : Toks Q Sys.init := ⟨fun _ h => (nomatch h), fun _ h => (nomatch h), fun _ _ h => by cases h⟩

theorem Toks.untouched {s' : Sys} (h : Toks Q s) (hu : Untouched s s') : Toks Q s' :=
  ⟨hu.spans ▸ h.spans, hu.adapters ▸ h.adapters, fun t => by
    have : (s'.th t).stack = (s.th t).stack := congrArg Prod.fst (hu.loc t)
    rw [this]; exact h.lines t⟩

theorem Toks.setTh (h : Toks Q s) (t : Nat) (th : Th) (hst : StackAll (LineQ Q) th.stack) : Toks Q (s.setTh t th) :=
  ⟨h.spans, h.adapters, Sys.th_setTh_ind (P := fun _ th => StackAll (LineQ Q) th.stack) hst h.lines⟩

theorem Toks.senderExit (h : Toks Q s) (t : Nat) : Toks Q (s.senderExit t) := by
  obtain ⟨_, _, _, e⟩ := s.senderExit_frame t
  rw [e]
  have h' := h.setTh t { s.th t with guards := [], alive := false, pending := [] } (h.lines t)
  exact ⟨h'.spans, h'.adapters, h'.lines⟩

theorem Toks.getSpan (h : Toks Q s) {v : String} {sv : SpanVal} (hg : assocGet s.spans v = some sv) : SvQ Q sv :=
  h.spans (v, sv) (assocGet_mem hg)

theorem Toks.getAdapter (h : Toks Q s) {a : String} {ad : Adapter} (hg : assocGet s.adapters a = some ad) :
    ∀ sv, ad.span = some sv → SvQ Q sv :=
  h.adapters (a, ad) (assocGet_mem hg)

theorem Toks.issue (hQ : TokClosed Q) {sp : SpanInner} (h : Q sp.token) : Q (issueToken sp) :=
  hQ.map _ (fun _ => ⟨rfl, rfl⟩) h

theorem Toks.currentToken (hQ : TokClosed Q) (h : Toks Q s) {t : Nat} {tok : Token}
    (hc : (s.th t).stack.currentToken = some tok) : Q tok := by
  unfold Stack.currentToken at hc
  cases hl : (s.th t).stack.lines with
  | nil => rw [hl] at hc; cases hc
  | cons l ls =>
    rw [hl] at hc
    obtain ⟨t0, ht0, rfl⟩ := Option.map_eq_some_iff.mp hc
    exact hQ.map _ (fun _ => ⟨rfl, rfl⟩) (h.lines t l (hl ▸ List.mem_cons_self) t0 ht0)

theorem Toks.tokenOfVar (hQ : TokClosed Q) (h : Toks Q s) (p : String) : s.tokenOfVar p = [] ∨ Q (s.tokenOfVar p) := by
  unfold Sys.tokenOfVar
  rcases hg : assocGet s.spans p with _ | _ | sp
  · exact .inl rfl
  · exact .inl rfl
  · exact .inr (Toks.issue hQ (h.getSpan hg sp rfl))

end toks

/-- what a thread whose tokens are `Q`-tokens sends: a span set goes out under the sampled part of a `Q`-token; `start`
    and the finish / cancel signals carry no token -/
def CmdQ (Q : Token → Prop) : Cmd → Prop
  | .submit _ tok => ∃ tok0, Q tok0 ∧ tok = tok0.filter (·.isSampled)
  | _ => True

/-- operations that neither push nor pop a thread-local guard -/
def isPlain : Op → Bool
  | .scope _ | .localEnter _ | .collectorStart | .close | .collect _ | .exit | .adPoll _ _ | .adEnd _ _
  | .closeUnder | .collectUnder _ | .unwind => false
  | _ => true

/-- how far an operation of thread `t` has got from `s`: the updates so far, the tokens of the state reached, and, as
    long as no guard has been pushed or popped (`plain`), that the thread's span stack has only grown in its queues.
    The `then*` lemmas extend a walk by one helper of `Model/Api.lean`. -/
structure Walk (Q : Token → Prop) (t : Nat) (plain : Bool) (s s' : Sys) : Prop where
  moves : Moves (CmdQ Q) t s s'
  toks : Toks Q s'
  pres : plain = true → Good (s.th t) → Pres (s.th t) (s'.th t)

section run
variable {Q : Token → Prop} {t : Nat} {b : Bool} {s s1 : Sys}

theorem Walk.start (h : Toks Q s) : Walk Q t b s s := ⟨.refl s, h, fun _ _ => .refl _⟩

theorem Walk.thenSG (h : Walk Q t false s s1) (st : Stack) (gs : List Guard) (hst : StackAll (LineQ Q) st) :
    Walk Q t false s (s1.setTh t { s1.th t with stack := st, guards := gs }) :=
  ⟨h.moves.trans (.setTh s1 _ rfl rfl rfl), h.toks.setTh t _ hst, nofun⟩

theorem Walk.thenGuards (h : Walk Q t false s s1) (gs : List Guard) : Walk Q t false s (s1.setTh t { s1.th t with guards := gs }) :=
  h.thenSG _ gs (h.toks.lines t)

theorem Walk.thenStack (h : Walk Q t false s s1) (st : Stack) (hst : StackAll (LineQ Q) st) :
    Walk Q t false s (s1.setTh t { s1.th t with stack := st }) := h.thenSG st _ hst

/-- the head line's queue grows -/
theorem Walk.thenGrow (h : Walk Q t b s s1) (st : Stack) (hst : StackAll (LineQ Q) st)
    (hext : Good (s1.th t) → LinesExt (s1.th t).stack.lines st.lines ∧ st.cap = (s1.th t).stack.cap) :
    Walk Q t b s (s1.setTh t { s1.th t with stack := st }) :=
  ⟨h.moves.trans (.setTh s1 _ rfl rfl rfl), h.toks.setTh t _ hst, fun hb hg =>
    (h.pres hb hg).trans (s1.th_setTh_same t _ ▸ Pres.setStack _ (hext (hg.of_pres (h.pres hb hg))))⟩

/-- a step that leaves every thread's recording state alone -/
theorem Walk.thenSame (h : Walk Q t b s s1) {s2 : Sys} (hm : Moves (CmdQ Q) t s1 s2) (ht : Toks Q s2)
    (hl : (s2.th t).loc = (s1.th t).loc) : Walk Q t b s s2 :=
  ⟨h.moves.trans hm, ht, fun hb hg => (h.pres hb hg).trans (.of_loc hl)⟩

theorem Walk.thenPutCtr (h : Walk Q t b s s1) (c : Ctr) : Walk Q t b s (s1.putCtr t c) :=
  h.thenSame ((Moves.setTh s1 { s1.th t with suffix := c.suffix } rfl rfl rfl).trans (.fields rfl rfl rfl rfl rfl rfl rfl rfl))
    (h.toks.untouched (s1.putCtr_untouched t c)) ((s1.putCtr_untouched t c).loc t)

theorem Walk.thenFields (h : Walk Q t b s s1) {s2 : Sys} (h1 : s2.cyc = s1.cyc) (h2 : s2.rxs = s1.rxs) (h3 : s2.threads = s1.threads)
    (h4 : s2.deferred = s1.deferred) (h5 : s2.g = s1.g) (h6 : s2.coll = s1.coll) (h7 : s2.carried = s1.carried)
    (h8 : s2.reporterReady = s1.reporterReady) (hs : ∀ e ∈ s2.spans, SvQ Q e.2)
    (ha : ∀ e ∈ s2.adapters, ∀ sv, e.2.span = some sv → SvQ Q sv) : Walk Q t b s s2 :=
  h.thenSame (.fields h1 h2 h3 h4 h5 h6 h7 h8) ⟨hs, ha, fun t => by rw [Sys.th_congr h3]; exact h.toks.lines t⟩
    (congrArg Th.loc (Sys.th_congr h3 t))

theorem Walk.thenSetSpan (h : Walk Q t b s s1) (v : String) (sv : SpanVal) (hsv : SvQ Q sv) :
    Walk Q t b s { s1 with spans := assocSet s1.spans v sv } :=
  h.thenFields rfl rfl rfl rfl rfl rfl rfl rfl (fun e he => (mem_assocSet he).elim (h.toks.spans e) (fun e' => e' ▸ hsv))
    h.toks.adapters

theorem Walk.thenDelSpan (h : Walk Q t b s s1) (v : String) : Walk Q t b s { s1 with spans := assocDel s1.spans v } :=
  h.thenFields rfl rfl rfl rfl rfl rfl rfl rfl (fun e he => h.toks.spans e (mem_assocDel he)) h.toks.adapters

theorem Walk.thenLspans (h : Walk Q t b s s1) (x : List (String × LocalSpansVal)) : Walk Q t b s { s1 with lspans := x } :=
  h.thenFields rfl rfl rfl rfl rfl rfl rfl rfl h.toks.spans h.toks.adapters

theorem Walk.thenSetAdapter (h : Walk Q t b s s1) (a : String) (ad : Adapter) (had : ∀ sv, ad.span = some sv → SvQ Q sv) :
    Walk Q t b s { s1 with adapters := assocSet s1.adapters a ad } :=
  h.thenFields rfl rfl rfl rfl rfl rfl rfl rfl h.toks.spans
    (fun e he => (mem_assocSet he).elim (h.toks.adapters e) (fun e' => e' ▸ had))

theorem Walk.thenDelAdapter (h : Walk Q t b s s1) (a : String) : Walk Q t b s { s1 with adapters := assocDel s1.adapters a } :=
  h.thenFields rfl rfl rfl rfl rfl rfl rfl rfl h.toks.spans (fun e he => h.toks.adapters e (mem_assocDel he))

theorem Walk.thenSend (h : Walk Q t b s s1) (cmd : Cmd) (f : Bool) (hf : f = true → cmd.isSignal = true) (hc : CmdQ Q cmd) :
    Walk Q t b s (s1.sendCmd t cmd f) :=
  h.thenSame (.send s1 cmd f hf hc) (h.toks.untouched (s1.sendCmd_untouched t cmd f)) ((s1.sendCmd_untouched t cmd f).loc t)

theorem Walk.thenSubmit (h : Walk Q t b s s1) (sp : SpanSet) (tok : Token) (ht : Q tok) : Walk Q t b s (s1.submitSpans t sp tok) := by
  unfold Sys.submitSpans
  exact iteInduction (fun _ => h) fun _ => h.thenSend _ false (fun e => nomatch e) ⟨tok, ht, rfl⟩

theorem Walk.thenNewSpan (h : Walk Q t b s s1) (v n : String) (tok : Token) (cid : Option Nat) (ht : Q tok) :
    Walk Q t b s (s1.newSpan t v n tok cid) :=
  (h.thenPutCtr _).thenSetSpan v _ (fun _ e => by cases e; exact ht)

theorem Walk.thenDrop (h : Walk Q t b s s1) (sv : SpanVal) (hsv : SvQ Q sv) : Walk Q t b s (s1.dropSpanVal t sv) := by
  unfold Sys.dropSpanVal
  cases sv with
  | none => exact h
  | some sp =>
    dsimp only
    have h1 := (h.thenPutCtr ((s1.ctr t).now).2).thenSubmit (.span { sp.raw with endT := ((s1.ctr t).now).1 }) sp.token (hsv sp rfl)
    cases sp.collectId with
    | none => exact h1
    | some cid => exact h1.thenSend (.commit cid) true (fun _ => rfl) trivial

theorem Walk.thenClose (h : Walk Q t false s s1) (g : Guard) : Walk Q t false s (s1.closeGuard t g) := by
  unfold Sys.closeGuard
  cases g with
  | scope e =>
    cases e with
    | none => exact h
    | some epoch =>
      dsimp only
      have hu := (h.toks.lines t).unregister epoch
      have h1 := (h.thenStack _ hu.1).thenPutCtr
        ((((s1.setTh t { s1.th t with stack := ((s1.th t).stack.unregisterAndCollect epoch).1 }).ctr t).now).2)
      rcases hres : ((s1.th t).stack.unregisterAndCollect epoch).2 with _ | ⟨spans, _ | tk⟩
      · exact h1
      · exact h1
      · exact h1.thenSubmit _ tk (hu.2 spans _ hres tk rfl)
  | localSpan e =>
    cases e with
    | none => exact h
    | some hd => exact (h.thenStack _ ((h.toks.lines t).exitSpan (s1.ctr t) hd)).thenPutCtr _
  | collector e =>
    cases e with
    | none => exact h
    | some epoch => exact h.thenStack _ ((h.toks.lines t).unregister epoch).1

theorem Walk.thenCloseAll (h : Walk Q t false s s1) (gs : List Guard) : Walk Q t false s (gs.foldl (fun s g => s.closeGuard t g) s1) := by
  induction gs generalizing s1 with
  | nil => exact h
  | cons g gs ih => exact ih (h.thenClose g)

theorem Walk.thenEnterExit (h : Walk Q t b s s1) : Walk Q t b s (s1.enterExitLocal t) := by
  unfold Sys.enterExitLocal
  dsimp only
  cases hs : (s1.th t).stack.enterSpan (s1.ctr t) "cl" with
  | none => exact h
  | some res =>
    obtain ⟨st1, hd, c1⟩ := res
    -- the bracket with an empty body
    exact (h.thenGrow _ (((h.toks.lines t).enterSpan hs).exitSpan c1 hd) fun hg =>
      Guard.Opens.closed (g := .localSpan (some hd)) ⟨_, _, hs⟩ hg.2 (LinesExt.refl _) rfl).thenPutCtr _

theorem Walk.thenClosure (hQ : TokClosed Q) (h : Walk Q t b s s1) (cl : Closure) : Walk Q t b s (s1.runClosure t cl) := by
  unfold Sys.runClosure
  split
  · exact h.thenEnterExit
  · generalize cl.kvs = l
    induction l generalizing s1 with
    | nil => exact h
    | cons x xs ih => exact ih h.thenEnterExit
  · exact (h.thenGrow _ ((h.toks.lines t).addEvent (s1.ctr t) "cl-ev" none) fun _ =>
      Stack.modifyHead_ext (Stack.addEvent_fst ..) fun l => l.addEvent_ext ..).thenPutCtr _
  · cases hc : (s1.th t).stack.currentToken with
    | none => exact h
    | some tok =>
      have h1 := h.thenNewSpan "__cl" "cl-span" tok none (Toks.currentToken hQ h.toks hc)
      refine (h1.thenDelSpan "__cl").thenDrop _ ?_
      cases hg : assocGet (s1.newSpan t "__cl" "cl-span" tok none).spans "__cl" with
      | none => exact svQ_none
      | some sv => exact h1.toks.getSpan hg
  · exact h

end run

theorem Moves.mono {C C' : Cmd → Prop} {t : Nat} {s s' : Sys} (hC : ∀ c, C c → C' c) (h : Moves C t s s') : Moves C' t s s' := by
  induction h with
  | refl s => exact .refl s
  | trans _ _ ih1 ih2 => exact ih1.trans ih2
  | setTh s th' h1 h2 h3 => exact .setTh s th' h1 h2 h3
  | fields h1 h2 h3 h4 h5 h6 h7 h8 => exact .fields h1 h2 h3 h4 h5 h6 h7 h8
  | send s cmd f hf hc => exact .send s cmd f hf (hC cmd hc)
  | register hr => exact .register hr
  | senderExit s => exact .senderExit s

theorem Moves.config {C : Cmd → Prop} {t : Nat} {s s' : Sys} (h : Moves C t s s') :
    s'.reporterReady = s.reporterReady ∧ s'.coll = s.coll := by
  induction h with
  | refl => exact ⟨rfl, rfl⟩
  | trans _ _ ih1 ih2 => exact ⟨ih2.1.trans ih1.1, ih2.2.trans ih1.2⟩
  | setTh => exact ⟨rfl, rfl⟩
  | fields _ _ _ _ _ h6 _ h8 => exact ⟨h8, h6⟩
  | send s cmd f => exact ⟨(s.sendCmd_untouched t cmd f).ready, (s.sendCmd_untouched t cmd f).coll⟩
  | register hr => exact ⟨(Sys.register_untouched hr).ready, (Sys.register_untouched hr).coll⟩
  | senderExit s => obtain ⟨_, _, _, e⟩ := s.senderExit_frame t; rw [e]; exact ⟨rfl, rfl⟩

section ops
variable {Q : Token → Prop} {s : Sys} {t : Nat} {b : Bool} {op : Op}

/-- what operation `op` of thread `t` delivers from `s`: a walk to the new state, and an answer that reveals nothing but
    `Q`-tokens -/
structure Done (Q : Token → Prop) (t : Nat) (b : Bool) (s : Sys) (op : Op) (r : Sys × Obs) : Prop where
  walk : Walk Q t b s r.1
  obs : ObsQ Q op r.2

theorem Walk.quiet {s1 : Sys} {o : Obs} (h : Walk Q t b s s1) (hi : o.inert = true) : Done Q t b s op (s1, o) :=
  ⟨h, obsQ_of_inert hi⟩

theorem Sys.spamOnce_walk {s0 : Sys} (h : Walk Q t b s0 s)
    (hspam : s.reporterReady = true → Q [⟨0, 0, Consts.notSampledCollectId, true, false⟩]) : Walk Q t b s0 (s.spamOnce t) := by
  unfold Sys.spamOnce
  refine iteInduction (fun _ => h) fun hr => ?_
  have h1 := h.thenNewSpan "__spam" "spam" _ (some Consts.notSampledCollectId) (hspam (by simpa using hr))
  refine (h1.thenDelSpan "__spam").thenDrop _ ?_
  cases hg : assocGet (s.newSpan t "__spam" "spam" [⟨0, 0, Consts.notSampledCollectId, true, false⟩]
        (some Consts.notSampledCollectId)).spans "__spam" with
  | none => exact svQ_none
  | some sv => exact h1.toks.getSpan hg

theorem Sys.adPoll_walk (hQ : TokClosed Q) (h : Toks Q s) (a call : String) : Done Q t false s op (s.adPoll t a call) := by
  have r : Walk Q t false s s := .start h
  unfold Sys.adPoll
  cases hg : assocGet s.adapters a with
  | none => exact r.quiet rfl
  | some ad =>
    dsimp only
    have had := h.getAdapter hg
    have r1 := r.thenSetAdapter a { ad with inCall := some call } had
    split
    · cases hs : (s.th t).stack.enterSpan (s.ctr t) ad.name with
      | none => exact (r1.thenGuards _).quiet rfl
      | some res => exact ((r1.thenSG _ _ ((h.lines t).enterSpan hs)).thenPutCtr _).quiet rfl
    · rcases hsp : ad.span with _ | _ | sp <;> rw [hsp] at r1
      · exact (r1.thenGuards _).quiet rfl
      · exact (r1.thenGuards _).quiet rfl
      · dsimp only
        cases hr : (s.th t).stack.registerLine (some (issueToken sp)) with
        | none => exact (r1.thenGuards _).quiet rfl
        | some res =>
          exact (r1.thenSG _ _ ((h.lines t).registerLine (fun tk e => by cases e; exact Toks.issue hQ (had _ hsp sp rfl)) hr)).quiet rfl

theorem Sys.adEnd_walk (h : Toks Q s) (a result : String) : Done Q t false s op (s.adEnd t a result) := by
  have r : Walk Q t false s s := .start h
  unfold Sys.adEnd
  cases hg : assocGet s.adapters a with
  | none => exact r.quiet rfl
  | some ad =>
    cases hgs : (s.th t).guards with
    | nil => exact r.quiet rfl
    | cons g gs =>
      dsimp only
      have had := h.getAdapter hg
      cases ad.inCall with
      | none => exact r.quiet rfl
      | some call =>
        dsimp only
        have h1 := (r.thenGuards gs).thenClose g
        refine iteInduction (fun _ => ?_) fun _ => (h1.thenSetAdapter a { ad with inCall := none } had).quiet rfl
        have h2 := h1.thenSetAdapter a { ad with span := none, inCall := none } (fun sv e => by cases e)
        cases hsp : ad.span with
        | none => exact h2.quiet rfl
        | some sv => exact (h2.thenDrop sv (had sv hsp)).quiet rfl

theorem Sys.closeUnder_walk (h : Toks Q s) : Done Q t false s op (s.closeUnder t) := by
  have r : Walk Q t false s s := .start h
  unfold Sys.closeUnder
  dsimp only
  split
  · exact r.quiet rfl
  · refine iteInduction (fun _ => r.quiet rfl) fun _ => ?_
    split
    · exact ((r.thenGuards _).thenClose _).quiet rfl
    · exact ((r.thenGuards _).thenClose _).quiet rfl
    · exact r.quiet rfl

theorem Sys.collectUnder_walk (h : Toks Q s) (x : String) : Done Q t false s op (s.collectUnder t x) := by
  have r : Walk Q t false s s := .start h
  unfold Sys.collectUnder
  dsimp only
  split
  · next epoch _ _ =>
    exact iteInduction (fun _ => r.quiet rfl) fun _ =>
      (((r.thenSG _ _ ((h.lines t).unregister epoch).1).thenPutCtr _).thenLspans _).quiet rfl
  · exact r.quiet rfl

theorem Sys.rootOp_walk (h : Toks Q s) (v name : String) (trace span : Nat) (sampled : Bool)
    (hroot : s.reporterReady = true → ∀ cid, Q [⟨trace, span, cid, true, sampled⟩]) :
    Done Q t b s op (s.rootOp t v name trace span sampled) := by
  have r : Walk Q t b s s := .start h
  unfold Sys.rootOp
  refine iteInduction (fun _ => (r.thenSetSpan v none svQ_none).quiet rfl) fun hr => ?_
  have hq := hroot (by simpa using hr)
  refine iteInduction (fun _ => r.quiet rfl) fun _ => iteInduction (fun _ => ?_) fun _ => (r.thenNewSpan _ _ _ _ (hq _)).quiet rfl
  exact (((r.thenFields (s2 := { s with nextCollect := s.nextCollect + 1 }) rfl rfl rfl rfl rfl rfl rfl rfl h.spans
    h.adapters).thenSend (.start s.nextCollect) false (fun e => nomatch e) trivial).thenNewSpan _ _ _ _ (hq _)).quiet rfl

def Op.isCollectorOp : Op → Bool
  | .setReporter _ | .cycle | .flush | .cycBegin | .cycStep => true
  | _ => false

/-- a fresh root gets the token its arguments say (`hroot`; `spam` makes unsampled roots of trace 0) -/
theorem exec_toks (hQ : TokClosed Q) (op : Op) (hop : op.isCollectorOp = false) (h : Toks Q s)
    (hroot : ∀ v n tr sp b, op = .root v n tr sp b → s.reporterReady = true → ∀ cid, Q [⟨tr, sp, cid, true, b⟩])
    (hspam : ∀ n, op = .spam n → 0 < n → s.reporterReady = true → Q [⟨0, 0, Consts.notSampledCollectId, true, false⟩]) :
    Done Q t (isPlain op) s op (exec s t op) := by
  have r : Walk Q t (isPlain op) s s := .start h
  have root : ∀ v n (tok : Token) (c : SpanContext), Q tok → ctxOfToken tok = some c →
      Done Q t (isPlain op) s op (s.rootOp t v n c.traceId c.spanId c.sampled) :=
    fun v n tok c htok hc => Sys.rootOp_walk h v n c.traceId c.spanId c.sampled (fun _ cid => by
      cases tok with
      | nil => cases hc
      | cons it rest => cases hc; exact hQ.head htok _ _ _)
  cases op with
  | setReporter c => cases hop
  | cycle => cases hop
  | flush => cases hop
  | cycBegin => cases hop
  | cycStep => cases hop
  | spawn => exact ((r.thenGrow _ (h.lines t) fun _ => ⟨.refl _, rfl⟩).thenPutCtr _).quiet rfl
  | touch =>
    dsimp only [exec]
    cases hr : s.register t with
    | none => exact r.quiet rfl
    | some s' => exact (r.thenSame (.register hr) (h.untouched (Sys.register_untouched hr)) ((Sys.register_untouched hr).loc t)).quiet rfl
  | root v n tr sp b =>
    exact Sys.rootOp_walk h v n tr sp b (hroot v n tr sp b rfl)
  | rootFrom v n p tp =>
    dsimp only [exec]
    rcases hg : assocGet s.spans p with _ | _ | spn
    · exact r.quiet rfl
    · exact r.quiet rfl
    · dsimp only
      cases hc : ctxOfToken (issueToken spn) with
      | none => exact r.quiet rfl
      | some c => exact root v n _ c (Toks.issue hQ (h.getSpan hg spn rfl)) hc
  | rootFromLocal v n tp =>
    dsimp only [exec]
    cases hct : (s.th t).stack.currentToken with
    | none => exact r.quiet rfl
    | some tok =>
      dsimp only
      cases hc : ctxOfToken tok with
      | none => exact r.quiet rfl
      | some c => exact root v n tok c (Toks.currentToken hQ h hct) hc
  | child1 v n p =>
    dsimp only [exec]
    rcases hg : assocGet s.spans p with _ | _ | sp
    · exact r.quiet rfl
    · exact (r.thenSetSpan v none svQ_none).quiet rfl
    · exact (r.thenNewSpan v n _ none (Toks.issue hQ (h.getSpan hg sp rfl))).quiet rfl
  | childN v n ps =>
    dsimp only [exec]
    refine iteInduction (fun _ => r.quiet rfl) fun _ => iteInduction (fun _ => (r.thenSetSpan v none svQ_none).quiet rfl) fun hne => ?_
    refine (r.thenNewSpan v n _ none ?_).quiet rfl
    exact hQ.flatten (ps.map s.tokenOfVar) (fun tok htok => by
      obtain ⟨p, _, rfl⟩ := List.mem_map.mp htok
      exact Toks.tokenOfVar hQ h p) (fun e => hne (by rw [List.flatMap_def, e]; rfl))
  | childLocal v n =>
    dsimp only [exec]
    cases hc : (s.th t).stack.currentToken with
    | some tok => exact (r.thenNewSpan v n tok none (Toks.currentToken hQ h hc)).quiet rfl
    | none => exact (r.thenSetSpan v none svQ_none).quiet rfl
  | withProps v cl =>
    dsimp only [exec]
    rcases hg : assocGet s.spans v with _ | _ | sp
    · exact r.quiet rfl
    · exact r.quiet rfl
    · have hsp := h.getSpan hg sp rfl
      exact ⟨(r.thenClosure hQ cl).thenSetSpan v _ (fun _ e => by cases e; exact hsp), .ofClosure fun _ => ⟨_, hsp⟩⟩
  | addProps v cl =>
    dsimp only [exec]
    rcases hg : assocGet s.spans v with _ | _ | sp
    · exact r.quiet rfl
    · exact r.quiet rfl
    · have hsp := h.getSpan hg sp rfl
      exact ⟨((r.thenPutCtr _).thenClosure hQ cl).thenSubmit _ _ (Toks.issue hQ hsp), .ofClosure fun _ => ⟨_, hsp⟩⟩
  | addEvent v n p =>
    dsimp only [exec]
    rcases hg : assocGet s.spans v with _ | _ | sp
    · exact r.quiet rfl
    · exact r.quiet rfl
    · exact ((r.thenPutCtr _).thenSubmit _ _ (Toks.issue hQ (h.getSpan hg sp rfl))).quiet rfl
  | pushChild v x =>
    dsimp only [exec]
    rcases hg : assocGet s.spans v with _ | _ | sp
    · exact r.quiet rfl
    · cases assocGet s.lspans x <;> exact r.quiet rfl
    · cases assocGet s.lspans x with
      | none => exact r.quiet rfl
      | some ls =>
        exact iteInduction (fun _ => r.quiet rfl) fun _ => (r.thenSubmit _ _ (Toks.issue hQ (h.getSpan hg sp rfl))).quiet rfl
  | elapsed v =>
    dsimp only [exec]
    rcases hg : assocGet s.spans v with _ | _ | sp
    · exact r.quiet rfl
    · exact r.quiet rfl
    · exact ⟨r, .ofElapsed fun _ => ⟨_, h.getSpan hg sp rfl⟩⟩
  | cancel v =>
    dsimp only [exec]
    rcases hg : assocGet s.spans v with _ | _ | sp
    · exact r.quiet rfl
    · exact r.quiet rfl
    · dsimp only
      cases sp.collectId with
      | none => exact r.quiet rfl
      | some cid =>
        have h1 := r.thenSend (.drop cid) true (fun _ => rfl) trivial
        refine Walk.quiet ?_ rfl
        unfold Sys.noteParked
        exact iteInduction (fun _ => h1) fun _ => h1.thenFields rfl rfl rfl rfl rfl rfl rfl rfl h1.toks.spans h1.toks.adapters
  | drop v =>
    dsimp only [exec]
    cases hg : assocGet s.spans v with
    | none => exact r.quiet rfl
    | some sv => exact ((r.thenDelSpan v).thenDrop sv (h.getSpan hg)).quiet rfl
  | scope v =>
    dsimp only [exec]
    rcases hg : assocGet s.spans v with _ | _ | sp
    · exact r.quiet rfl
    · exact (r.thenGuards _).quiet rfl
    · dsimp only
      cases hr : (s.th t).stack.registerLine (some (issueToken sp)) with
      | none => exact (r.thenGuards _).quiet rfl
      | some res =>
        exact (r.thenSG _ _ ((h.lines t).registerLine
          (fun tk e => by cases e; exact Toks.issue hQ (h.getSpan hg sp rfl)) hr)).quiet rfl
  | localEnter n =>
    dsimp only [exec]
    cases hs : (s.th t).stack.enterSpan (s.ctr t) n with
    | none => exact (r.thenGuards _).quiet rfl
    | some res => exact ((r.thenSG _ _ ((h.lines t).enterSpan hs)).thenPutCtr _).quiet rfl
  | collectorStart =>
    dsimp only [exec]
    cases hr : (s.th t).stack.registerLine none with
    | none => exact (r.thenGuards _).quiet rfl
    | some res => exact (r.thenSG _ _ ((h.lines t).registerLine (fun _ e => by cases e) hr)).quiet rfl
  | close =>
    dsimp only [exec]
    cases (s.th t).guards with
    | nil => exact r.quiet rfl
    | cons g gs => exact ((r.thenGuards gs).thenClose g).quiet rfl
  | collect x =>
    dsimp only [exec]
    split
    · next e gs _ =>
      have h0 := r.thenGuards gs
      cases e with
      | none => exact ((h0.thenPutCtr _).thenLspans _).quiet rfl
      | some epoch =>
        exact (((h0.thenStack _ ((h0.toks.lines t).unregister epoch).1).thenPutCtr _).thenLspans _).quiet rfl
    · exact r.quiet rfl
  | lWithProps cl =>
    dsimp only [exec]
    split
    · exact r.quiet rfl
    · next hd _ _ =>
      have h1 := r.thenClosure hQ cl
      exact ⟨h1.thenGrow _ ((h1.toks.lines t).withProps hd cl.kvs) fun _ =>
        Stack.modifyHead_ext (Stack.withProps_eq ..) fun l => l.withProps_ext .., .ofClosure fun ⟨_, _, e⟩ => by rcases e with e | e <;> cases e⟩
    · exact r.quiet rfl
  | lAddProps cl =>
    dsimp only [exec]
    have h1 := r.thenClosure hQ cl
    exact iteInduction (fun _ => ⟨(h1.thenGrow _ ((h1.toks.lines t).addProps _ cl.kvs) fun _ =>
      Stack.modifyHead_ext (Stack.addProps_fst ..) fun l => l.addProps_ext ..).thenPutCtr _,
      .ofClosure fun ⟨_, _, e⟩ => by rcases e with e | e <;> cases e⟩) fun _ => r.quiet rfl
  | lAddEvent n p => exact ((r.thenGrow _ ((h.lines t).addEvent (s.ctr t) n p) fun _ =>
    Stack.modifyHead_ext (Stack.addEvent_fst ..) fun l => l.addEvent_ext ..).thenPutCtr _).quiet rfl
  | ctxOf v =>
    dsimp only [exec]
    rcases hg : assocGet s.spans v with _ | _ | sp
    · exact r.quiet rfl
    · exact r.quiet rfl
    · exact ⟨r, .ofCtx (Toks.issue hQ (h.getSpan hg sp rfl))⟩
  | ctxLocal =>
    dsimp only [exec]
    cases hc : (s.th t).stack.currentToken with
    | none => exact r.quiet rfl
    | some tok =>
      exact ⟨r, .ofCtx (Toks.currentToken hQ h hc)⟩
  | toRecords x tr sp => dsimp only [exec]; split <;> exact r.quiet rfl
  | dropLocalSpans x => exact (r.thenLspans _).quiet rfl
  | stats => exact iteInduction (fun _ => r.quiet rfl) fun _ => r.quiet rfl
  | exit =>
    have h1 := r.thenCloseAll (s.th t).guards
    dsimp only [exec]
    rw [Sys.exitThread_eq]
    exact Walk.quiet ⟨h1.moves.trans (.senderExit _), h1.toks.senderExit t, nofun⟩ rfl
  | spam n =>
    dsimp only [exec]
    refine iteInduction (fun _ => r.quiet rfl) fun _ => Walk.quiet ?_ rfl
    have hs : ∀ k, k ≤ n → Walk Q t true s (Nat.rec s (fun _ acc => acc.spamOnce t) k) := fun k => by
      induction k with
      | zero => exact fun _ => r
      | succ k ih =>
        intro hk
        have ih' := ih (Nat.le_of_succ_le hk)
        exact Sys.spamOnce_walk ih' (fun hr => hspam n rfl (Nat.lt_of_lt_of_le k.succ_pos hk) (ih'.moves.config.1 ▸ hr))
    exact hs n (Nat.le_refl n)
  | adNew a kind arg =>
    dsimp only [exec]
    split
    · exact (r.thenSetAdapter a _ (fun _ e => by cases e)).quiet rfl
    · cases hg : assocGet s.spans arg with
      | none => exact r.quiet rfl
      | some sv =>
        exact ((r.thenDelSpan arg).thenSetAdapter a _ (fun _ e => by cases e; exact h.getSpan hg)).quiet rfl
  | adPoll a call =>
    exact Sys.adPoll_walk hQ h a call
  | adEnd a result =>
    exact Sys.adEnd_walk h a result
  | adDrop a =>
    dsimp only [exec]
    cases hg : assocGet s.adapters a with
    | none => exact r.quiet rfl
    | some ad =>
      dsimp only
      cases hsp : ad.span with
      | none => exact (r.thenDelAdapter a).quiet rfl
      | some sv => exact ((r.thenDelAdapter a).thenDrop sv (h.getAdapter hg sv hsp)).quiet rfl
  | closeUnder =>
    exact Sys.closeUnder_walk h
  | collectUnder x =>
    exact Sys.collectUnder_walk h x
  | unwind => exact ((r.thenCloseAll _).thenGuards []).quiet rfl

end ops

theorem exec_walk (s : Sys) (t : Nat) (op : Op) (hop : op.isCollectorOp = false) :
    Walk (fun _ => True) t (isPlain op) s (exec s t op).1 :=
  (exec_toks (Q := fun _ => True) ⟨fun _ _ _ => trivial, fun _ _ _ => trivial, fun _ _ _ _ => trivial⟩ op hop
    ⟨fun _ _ _ _ => trivial, fun _ _ _ _ _ _ => trivial, fun _ _ _ _ _ => trivial⟩
    (fun _ _ _ _ _ _ _ _ => trivial) (fun _ _ _ _ => trivial)).walk

theorem exec_moves (s : Sys) (t : Nat) (op : Op) (hop : op.isCollectorOp = false) :
    Moves (fun _ => True) t s (exec s t op).1 :=
  (exec_walk s t op hop).moves.mono fun _ _ => trivial

/-- `exec` by cases: an operation of a thread, or `set_reporter`, or one of the four of the collector, which is refused,
    or is a whole cycle, the start of a stepped one, or one of its steps -/
theorem exec_ind {P : Sys × Obs → Prop} (s : Sys) (t : Nat) (op : Op)
    (hthread : op.isCollectorOp = false → P (exec s t op))
    (hset : ∀ c, op = .setReporter c →
      P ({ s with reporterReady := true, coll := { s.coll with cancelable := c, hasReporter := true } }, .ok))
    (hbad : ∀ w, P (s, .badOp w))
    (hcycle : s.cyc = none → P (s.cycle.1, .report s.cycle.2))
    (hbegin : ∀ p, P (s.cycBegin.1, .phase p))
    (hstep : P s.cycStep) : P (exec s t op) := by
  cases hc : op.isCollectorOp with
  | false => exact hthread hc
  | true =>
    have cyc : P (exec s t .cycle) := by
      dsimp only [exec]
      cases h0 : s.cyc with
      | none => exact hcycle h0
      | some cs => exact hbad _
    unfold Op.isCollectorOp at hc
    split at hc
    · exact hset _ rfl
    · exact cyc
    · exact cyc
    · show P s.cycBegin
      rcases s.cycBegin_cases with ⟨w, e⟩ | ⟨_, p, _, _, e⟩
      · rw [e]; exact hbad w
      · have := hbegin p; rw [e] at this ⊢; exact this
    · exact hstep
    · cases hc

end Fastrace
