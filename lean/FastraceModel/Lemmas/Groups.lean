import FastraceModel.Lemmas.Cycle

/-! per-collect-id view of the collector: what is buffered for an id, what a batch routes to
it, what a commit emits -/
namespace Fastrace

/-- the span sets buffered for a collect id -/
def Coll.colsOf (c : Coll) (id : Nat) : List Collection := ((c.find? id).map (·.collections)).getD []

/-- the collections one batch routes to a collect id, in drain order -/
def routed (id : Nat) (subs : List (SpanSet × Token)) : List Collection :=
  subs.flatMap fun sub => (sub.2.filter (·.collectId == id)).map fun it => ⟨sub.1, it.traceId, it.parentId⟩

theorem submitItem_colsOf (cb : Bool) (spans : SpanSet) (st : Coll × List Collection) (it : TokenItem) (id : Nat)
    (hid : id ∈ st.1.keys) :
    (submitItem cb spans st it).1.colsOf id =
      st.1.colsOf id ++ (if it.collectId = id then [⟨spans, it.traceId, it.parentId⟩] else []) := by
  unfold submitItem Coll.colsOf
  cases hf : st.1.find? it.collectId with
  | some a =>
    dsimp only
    rw [Coll.find?_insert]
    by_cases he : it.collectId = id
    · subst he
      rw [if_pos rfl, if_pos rfl, hf]
      rfl
    · rw [if_neg (Ne.symm he), if_neg he, List.append_nil]
  | none =>
    have hne : it.collectId ≠ id := fun e => Coll.not_mem_keys hf (e ▸ hid)
    rw [if_neg hne, List.append_nil]
    cases cb <;> rfl

theorem processSubmit_colsOf (st : Coll × List Collection) (sub : SpanSet × Token) (id : Nat) (hid : id ∈ st.1.keys) :
    (processSubmit st sub).1.colsOf id =
      st.1.colsOf id ++ (sub.2.filter (·.collectId == id)).map fun it => ⟨sub.1, it.traceId, it.parentId⟩ := by
  unfold processSubmit
  generalize st.1.cancelable = cb
  induction sub.2 generalizing st with
  | nil => exact (List.append_nil _).symm
  | cons it its ih =>
    rw [List.foldl_cons, ih _ ((submitItem_keys cb sub.1 st it id).mpr hid), submitItem_colsOf _ _ _ _ _ hid,
      List.append_assoc, List.filter_cons]
    by_cases he : it.collectId = id
    · rw [if_pos he, if_pos (beq_iff_eq.mpr he)]
      rfl
    · rw [if_neg he, if_neg (mt beq_iff_eq.mp he)]
      rfl

theorem foldl_processSubmit_colsOf (subs : List (SpanSet × Token)) (st : Coll × List Collection) (id : Nat)
    (hid : id ∈ st.1.keys) :
    (subs.foldl processSubmit st).1.colsOf id = st.1.colsOf id ++ routed id subs := by
  induction subs generalizing st with
  | nil => exact (List.append_nil _).symm
  | cons s ss ih =>
    rw [List.foldl_cons, ih _ ((processSubmit_keys st s id).mpr hid), processSubmit_colsOf _ _ _ hid, List.append_assoc]
    rfl

/-- the groups a sequence of commits post-processes: (collect id, its buffered span sets) -/
def commitGroups : Coll → List Nat → List (Nat × List Collection)
  | _, [] => []
  | c, id :: ids =>
    match c.find? id with
    | some a => (id, a.collections) :: commitGroups (c.remove id) ids
    | none => commitGroups c ids

theorem commitGroups_keys (c : Coll) (ids : List Nat) :
    ∀ g ∈ commitGroups c ids, g.1 ∈ ids ∧ g.1 ∈ c.keys ∧ g.2 = c.colsOf g.1 := by
  induction ids generalizing c with
  | nil => exact fun _ h => absurd h List.not_mem_nil
  | cons id ids ih =>
    intro g hg
    rw [commitGroups] at hg
    cases hf : c.find? id with
    | some a =>
      rw [hf] at hg
      rcases List.mem_cons.mp hg with rfl | hg
      · exact ⟨List.mem_cons_self, Coll.mem_keys_of_find? hf, by rw [Coll.colsOf, hf]; rfl⟩
      · obtain ⟨h1, h2, h3⟩ := ih (c.remove id) g hg
        have hk := (Coll.mem_keys_remove c id g.1).mp h2
        refine ⟨List.mem_cons_of_mem _ h1, hk.1, ?_⟩
        rw [h3, Coll.colsOf, Coll.colsOf, Coll.find?_remove, if_neg hk.2]
    | none =>
      rw [hf] at hg
      obtain ⟨h1, h2, h3⟩ := ih c g hg
      exact ⟨List.mem_cons_of_mem _ h1, h2, h3⟩

theorem commitGroups_nodup (c : Coll) (ids : List Nat) : ((commitGroups c ids).map (·.1)).Nodup := by
  induction ids generalizing c with
  | nil => exact List.nodup_nil
  | cons id ids ih =>
    rw [commitGroups]
    cases hf : c.find? id with
    | some a =>
      simp only [List.map_cons, List.nodup_cons]
      refine ⟨?_, ih _⟩
      intro hmem
      obtain ⟨g, hg, hg1⟩ := List.mem_map.mp hmem
      have := (commitGroups_keys (c.remove id) ids g hg).2.1
      rw [hg1] at this
      exact ((Coll.mem_keys_remove c id id).mp this).2 rfl
    | none => exact ih c

theorem foldl_processCommit_records (conv : Nat → Nat) (ids : List Nat) (st : Coll × List Record) :
    (ids.foldl (processCommit conv) st).2.map Record.core
      = st.2.map Record.core ++ (commitGroups st.1 ids).flatMap (fun g => g.2.flatMap (collectionCores conv)) := by
  induction ids generalizing st with
  | nil => exact (List.append_nil _).symm
  | cons id ids ih =>
    rw [List.foldl_cons, commitGroups, ih]
    unfold processCommit
    cases hf : st.1.find? id with
    | some a => rw [postprocess_core, List.flatMap_cons, List.append_assoc]
    | none => rfl

theorem afterSubmits_stale_cancelable (c : Coll) (batch : List Cmd) (hc : c.cancelable = true) :
    (afterSubmits c batch).2 = [] := by
  have h0 : (phaseDrops (phaseStarts c batch) batch).cancelable = true :=
    (congrArg Prod.fst ((phaseDrops_flags _ batch).trans (phaseStarts_flags c batch))).trans hc
  -- the collector stays cancelable along the submit loop, so `submitItem` never appends to the stale list
  refine (List.foldlRecOn (motive := fun st : Coll × List Collection => st.1.cancelable = true ∧ st.2 = [])
    (submitsOf batch) processSubmit ⟨h0, rfl⟩ fun st h sub _ =>
      ⟨(congrArg Prod.fst (processSubmit_flags st sub)).trans h.1, ?_⟩).2
  unfold processSubmit
  rw [h.1]
  exact (foldl_proj Prod.snd (fun st it => by unfold submitItem; cases st.1.find? it.collectId <;> rfl) sub.2 st).trans h.2

/-- **cancelable cycle, exactly**: the report consists of the buffered span sets of the
    collect ids committed in this batch (in commit order, each id once), and of nothing else -/
theorem cancelable_cycle_records (conv : Nat → Nat) (c : Coll) (batch : List Cmd)
    (hr : c.hasReporter = true) (hc : c.cancelable = true) :
    ∃ recs, (cycleProcess conv c batch).2 = some recs ∧
      recs.map Record.core
        = (commitGroups (afterSubmits c batch).1 (commitsOf batch)).flatMap
            (fun g => g.2.flatMap (collectionCores conv)) := by
  rw [cycleProcess_eq conv c batch hr, afterSubmits_stale_cancelable c batch hc,
    flushAll_cancelable _ _ ((congrArg Prod.fst (afterCommits_flags conv c batch)).trans hc)]
  exact ⟨_, rfl, foldl_processCommit_records conv _ _⟩

theorem suppressed_of_not_active (conv : Nat → Nat) (c : Coll) (batch : List Cmd) (hr : c.hasReporter = true) (id : Nat)
    (h : id ∉ (afterSubmits c batch).1.keys) :
    (∀ g ∈ commitGroups (afterSubmits c batch).1 (commitsOf batch), g.1 ≠ id) ∧
    id ∉ (cycleProcess conv c batch).1.keys := by
  refine ⟨fun g hg e => h (e ▸ (commitGroups_keys _ _ g hg).2.1), fun hk => h ?_⟩
  rw [cycleProcess_eq conv c batch hr, flushAll_keys, afterCommits_keys] at hk
  exact hk.1

end Fastrace
