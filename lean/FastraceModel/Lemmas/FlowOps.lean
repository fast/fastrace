import FastraceModel.Lemmas.Flow
import FastraceModel.Lemmas.Fifo

/-!
The channel invariant `ChanInv` and the step relation `Step` for every operation of a thread:

* `ChanInv.cons`  — conservation of commands (see `Lemmas/Flow.lean`);
* `ChanInv.sig`   — an overflow list only ever holds finish / cancel signals (`CommitCollect`,
                 `DropCollect`): best-effort sends are never parked;
* `ChanInv.wf`    — once the first drain pass is over no receiver is left unvisited;
* `ChanInv.lost`  — what `Sender::drop` lost are signals too (it only ever loses parked values).

`Step s s'` says: `s'` keeps `ChanInv` and `FifoInv`, and the collector state and the logs of consumed, reported and
discarded commands are untouched (only a cycle changes those).
-/
namespace Fastrace

structure ChanInv (s : Sys) : Prop where
  cons : ∀ w, Additive w → wsum w s.g.accepted + wsum w (s.g.injected.map Cmd.drop) = s.flow w + s.g.out w
  sig : ∀ e ∈ s.threads, ∀ c ∈ e.2.pending, c.isSignal = true
  wf : CycWF s
  lost : ∀ c ∈ s.g.lostAtExit, c.isSignal = true

/-- the overflow list of thread `t` as the operations see it -/
theorem ChanInv.sig' {s : Sys} (h : ChanInv s) (t : Nat) : ∀ c ∈ (s.th t).pending, c.isSignal = true := by
  unfold Sys.th
  cases hg : natGet s.threads t with
  | none => intro c hc; cases hc
  | some th => exact h.sig _ (natGet_mem hg)

/-- `chan` and `fifo` are implications because an elementary update keeps these invariants without establishing them;
    the other fields are what a thread's operation leaves untouched outright -/
structure Step (s s' : Sys) : Prop where
  chan : ChanInv s → ChanInv s'
  coll : s'.coll = s.coll
  consumed : s'.g.consumed = s.g.consumed
  reported : s'.g.reported = s.g.reported
  discarded : s'.g.discarded = s.g.discarded
  fifo : FifoInv s → FifoInv s'

theorem Step.refl (s : Sys) : Step s s := ⟨id, rfl, rfl, rfl, rfl, id⟩

theorem Step.trans {a b c : Sys} (h1 : Step a b) (h2 : Step b c) : Step a c :=
  ⟨fun h => h2.chan (h1.chan h), h2.coll.trans h1.coll, h2.consumed.trans h1.consumed, h2.reported.trans h1.reported,
   h2.discarded.trans h1.discarded, fun h => h2.fifo (h1.fifo h)⟩

/-! What reads only some fields is stated on those fields: between two states that are not syntactically alike `rfl` proves
    an equation of fields at once, and one of `rings`, `popped` or `CycWF` only after a long failed attempt to unify the
    states (as with `Sys.th_congr`). -/

theorem Sys.rings_congr {s s' : Sys} (h1 : s'.cyc = s.cyc) (h2 : s'.rxs = s.rxs) : s'.rings = s.rings := by
  unfold Sys.rings; rw [h1, h2]

theorem Sys.popped_congr {s s' : Sys} (h1 : s'.cyc = s.cyc) : s'.popped = s.popped := by
  unfold Sys.popped; rw [h1]

theorem CycWF.congr {s s' : Sys} (h1 : s'.cyc = s.cyc) (h : CycWF s) : CycWF s' := fun cs hcs => h cs (h1 ▸ hcs)

theorem Step.of_fields {s s' : Sys} (h1 : s'.cyc = s.cyc) (h2 : s'.rxs = s.rxs) (h3 : s'.threads = s.threads)
    (h4 : s'.deferred = s.deferred) (h5 : s'.g = s.g) (h6 : s'.coll = s.coll) (h7 : s'.carried = s.carried) : Step s s' := by
  refine ⟨fun h => ⟨fun w hw => ?_, h3 ▸ h.sig, h.wf.congr h1, h5 ▸ h.lost⟩, h6, by rw [h5], by rw [h5], by rw [h5],
    fun h => h.of_same (Sys.rings_congr h1 h2) h3 (by rw [h5]) (by rw [h5])⟩
  have := h.cons w hw
  unfold Sys.flow at this ⊢
  rw [h1, h2, h3, h4, h5, h7]
  exact this

theorem Sys.setRing_threads (s : Sys) (t : Nat) (r : Ring Cmd) : (s.setRing t r).threads = s.threads := by
  rw [Sys.setRing_frame]
theorem Sys.setRing_g (s : Sys) (t : Nat) (r : Ring Cmd) : (s.setRing t r).g = s.g := by
  rw [Sys.setRing_frame]
theorem Sys.setRing_coll (s : Sys) (t : Nat) (r : Ring Cmd) : (s.setRing t r).coll = s.coll := by
  rw [Sys.setRing_frame]

theorem Sys.setRing_wf (s : Sys) (t : Nat) (r : Ring Cmd) (hw : CycWF s) : CycWF (s.setRing t r) := by
  unfold Sys.setRing
  cases hc : s.cyc with
  | none => exact fun cs hcs => nomatch hcs
  | some cs =>
    dsimp only
    by_cases h1 : (natGet cs.todo t).isSome = true
    · rw [if_pos h1]
      intro cs' hcs' hp
      cases hcs'
      rw [hw cs hc hp] at h1
      cases h1
    · rw [if_neg h1]
      by_cases h2 : (natGet cs.kept t).isSome = true
      · rw [if_pos h2]
        intro cs' hcs' hp
        cases hcs'
        exact hw cs hc hp
      · rw [if_neg h2]
        exact hw

/-- the accounting reads five of the history variables -/
theorem ChanInv.withG_side {s : Sys} (h : ChanInv s) (g : Ghost) (h1 : g.accepted = s.g.accepted) (h2 : g.consumed = s.g.consumed)
    (h3 : g.discarded = s.g.discarded) (h4 : g.lostAtExit = s.g.lostAtExit)
    (h5 : g.injected = s.g.injected := by rfl) : ChanInv (s.withG g) := by
  refine ⟨fun w hw => ?_, h.sig, h.wf, by rw [Sys.withG_g, h4]; exact h.lost⟩
  have := h.cons w hw
  simp only [Sys.withG_g, Sys.withG_flow, Ghost.out, h1, h2, h3, h4, h5] at this ⊢
  exact this

/-- a command whose sender is blocked or orphaned changes only the `blocked` / `orphaned` logs -/
theorem Step.withG_side {s : Sys} (g : Ghost) (h1 : g.accepted = s.g.accepted) (h2 : g.consumed = s.g.consumed)
    (h3 : g.discarded = s.g.discarded) (h4 : g.lostAtExit = s.g.lostAtExit) (h5 : g.reported = s.g.reported)
    (h6 : g.acceptedBy = s.g.acceptedBy := by rfl) (h7 : g.drainedBy = s.g.drainedBy := by rfl)
    (h8 : g.injected = s.g.injected := by rfl) :
    Step s (s.withG g) :=
  ⟨fun h => h.withG_side g h1 h2 h3 h4 h8, rfl, h2, h5, h3, fun h => h.of_same rfl rfl h6 h7⟩

/-- first use of a thread's channel: an empty ring is added under a key that was not there -/
theorem FifoInv.register {s s1 : Sys} (h : FifoInv s) (t : Nat) (hreg : s.register t = some s1) : FifoInv s1 := by
  rcases Sys.register_cases hreg with rfl | ⟨hnr, e, hr, _⟩
  · exact h
  · have hnk : t ∉ s.rings.map (·.1) := fun hk => Bool.false_ne_true (hnr ▸ h.reg' hk)
    have hq : ∀ t2, ringsQ s1.rings t2 = ringsQ s.rings t2 := fun t2 => by
      have := ringsQ_mid hnk (Ring.new Consts.ringCap) [] t2
      rw [List.append_nil] at this
      rw [hr, this]
      by_cases e2 : t2 = t
      · rw [if_pos e2, e2, ringsQ_of_notin hnk]; rfl
      · rw [if_neg e2]
    refine h.step [] [] (by rw [e]; rfl) (by rw [e]; rfl) (fun t2 hal => ?_) ?_ fun t2 ht2 => ?_
    · obtain ⟨_, e2⟩ := Sys.register_th hreg t2
      rw [e2] at hal ⊢
      exact ⟨hal, by rw [hq, byT_nil, List.append_nil]; rfl⟩
    · rw [hr, List.map_append]
      exact List.nodup_append.mpr ⟨h.nodup', List.pairwise_singleton _ _, fun a ha b hb e =>
        hnk (e.trans (List.mem_singleton.mp hb : b = t) ▸ ha)⟩
    · rw [hr, List.map_append, List.mem_append] at ht2
      rcases ht2 with hk | hk
      · rw [Sys.register_th_other s s1 t t2 hreg fun e2 => hnk (e2 ▸ hk)]; exact h.reg' hk
      · rw [List.mem_singleton.mp hk, e]
        show (Sys.th (s.setTh t _) t).registered = true
        rw [Sys.th_setTh_same]

theorem Step.register {s s1 : Sys} (t : Nat) (hreg : s.register t = some s1) : Step s s1 := by
  obtain ⟨_, g1, c1⟩ := Sys.register_flow (fun _ => 0) s s1 t hreg
  refine ⟨fun h => ⟨fun w hw => ?_, ?_, ?_, by rw [g1]; exact h.lost⟩, c1, by rw [g1], by rw [g1], by rw [g1],
    fun h => h.register t hreg⟩
  · rw [(Sys.register_flow w s s1 t hreg).1, g1]
    exact h.cons w hw
  · rcases Sys.register_cases hreg with rfl | ⟨_, e, _, _⟩
    · exact h.sig
    · rw [e]
      intro e he
      rcases mem_natSet he with he | rfl
      · exact h.sig e he
      · exact h.sig' t
  · rcases Sys.register_cases hreg with rfl | ⟨hn, -⟩
    · exact h.wf
    · -- only `kept` grows
      rcases Sys.register_where hreg hn with ⟨hc, rfl⟩ | ⟨cs, hc, rfl⟩
      · exact fun cs hcs => nomatch hc ▸ hcs
      · intro cs' hcs' hp
        cases hcs'
        exact h.wf cs hc hp

/-- Only thread `t`'s channel changes.  Its entry becomes `th'`, its ring may be replaced; what the ring and the overflow
    list hold together is, up to order, what they held and `added`, which the channel took, less `lost`, which a dying
    thread could not hand over.  `hrings` is a disjunction because a thread may exit without ever having had a ring;
    `horder` is asked for a live `th'` only, since nothing is claimed about the order of what a dead thread leaves behind
    (finding D3). -/
theorem Step.channel {s S' : Sys} (t : Nat) (th' : Th) (added lost : List Cmd)
    (hths : S'.threads = natSet s.threads t th')
    (hrings : S'.rings = s.rings ∨ ∃ r r', natGet s.rings t = some r ∧ S'.rings = natSet s.rings t r')
    (hpop : S'.popped = s.popped) (hdef : S'.deferred = s.deferred) (hcar : S'.carried = s.carried)
    (hperm : (ringsQ S'.rings t ++ th'.pending ++ lost).Perm (ringsQ s.rings t ++ (s.th t).pending ++ added))
    (hsig : ChanInv s → ∀ c ∈ th'.pending, c.isSignal = true) (hlost : ∀ c ∈ lost, c ∈ (s.th t).pending)
    (horder : th'.alive = true → (s.th t).alive = true ∧
      ringsQ S'.rings t ++ th'.pending = ringsQ s.rings t ++ (s.th t).pending ++ added)
    (hreg : th'.registered = (s.th t).registered) (hcoll : S'.coll = s.coll) (hwf : CycWF s → CycWF S')
    (ha : S'.g.accepted = added ++ s.g.accepted)
    (hab : S'.g.acceptedBy = (added.map fun c => (t, c)).reverse ++ s.g.acceptedBy)
    (hl : S'.g.lostAtExit = lost ++ s.g.lostAtExit)
    (hc : S'.g.consumed = s.g.consumed := by rfl) (hd : S'.g.discarded = s.g.discarded := by rfl)
    (hrep : S'.g.reported = s.g.reported := by rfl) (hdb : S'.g.drainedBy = s.g.drainedBy := by rfl)
    (hi : S'.g.injected = s.g.injected := by rfl) : Step s S' := by
  have htht : S'.th t = th' := (Sys.th_congr (s := s.setTh t th') hths t).trans (Sys.th_setTh_same s t th')
  have hoth : ∀ t2, t2 ≠ t → S'.th t2 = s.th t2 := fun t2 e =>
    (Sys.th_congr (s := s.setTh t th') hths t2).trans (Sys.th_setTh_other s t t2 th' e)
  have hq : ∀ t2, t2 ≠ t → ringsQ S'.rings t2 = ringsQ s.rings t2 := fun t2 e => by
    rcases hrings with hr | ⟨r, r', _, hr⟩
    · rw [hr]
    · rw [hr, ringsQ, natGet_natSet_other _ _ _ _ e]; rfl
  have hkeys : S'.rings.map (·.1) = s.rings.map (·.1) := by
    rcases hrings with hr | ⟨r, r', hget, hr⟩
    · rw [hr]
    · obtain ⟨l1, l2, e1, e2⟩ := natSet_of_natGet hget r'
      rw [hr, e2, e1, List.map_append, List.map_append]; rfl
  refine ⟨fun h => ⟨fun w hw => ?_, fun e he => ?_, hwf h.wf, fun c hcl => ?_⟩, hcoll, hc, hrep, hd,
    fun h => h.step (added.map fun c => (t, c)) [] hab hdb (fun t2 hal => ?_) (hkeys ▸ h.nodup') fun t2 ht2 => ?_⟩
  · have e1 : pendW w (natSet s.threads t th') + _ = _ := pendW_setTh w s t th'
    have e2 := wsum_perm w hperm
    have e3 : ringsW w S'.rings + wsum w (ringsQ s.rings t) = ringsW w s.rings + wsum w (ringsQ S'.rings t) := by
      rcases hrings with hr | ⟨r, r', hget, hr⟩
      · rw [hr]
      · rw [hr, ringsQ, ringsQ, natGet_natSet_same, hget]; exact ringsW_natSet_some w _ t r r' hget
    have e4 : ringsW w S'.rings + pendW w (natSet s.threads t th') + wsum w lost =
        ringsW w s.rings + pendW w s.threads + wsum w added := by
      simp only [wsum_append] at e2
      omega
    have e5 : S'.flow w + wsum w lost = s.flow w + wsum w added := by
      rw [Sys.flow_eq, Sys.flow_eq, hths, hpop, hdef, hcar, Nat.add_right_comm _ _ (wsum w lost), e4,
        Nat.add_right_comm _ (wsum w added)]
    -- accepted + injected grows by `added`: added + (flow + out) = (flow' + lost) + out = flow' + out'
    rw [ha, hi, wsum_append, Nat.add_assoc, h.cons w hw, ← Nat.add_assoc, Nat.add_comm (wsum w added), ← e5, Nat.add_assoc]
    refine congrArg (S'.flow w + ·) ?_
    unfold Ghost.out
    rw [hc, hd, hl, wsum_append]
    exact Nat.add_left_comm ..
  · rw [hths] at he
    rcases mem_natSet he with he | rfl
    · exact h.sig e he
    · exact hsig h
  · rw [hl] at hcl
    rcases List.mem_append.mp hcl with hcl | hcl
    · exact h.sig' t c (hlost c hcl)
    · exact h.lost c hcl
  · rw [byT_tagged, byT_nil, List.nil_append]
    by_cases e : t2 = t
    · subst e
      rw [htht] at hal ⊢
      rw [if_pos rfl]
      exact horder hal
    · rw [hoth t2 e] at hal ⊢
      rw [hq t2 e, if_neg e, List.append_nil]
      exact ⟨hal, rfl⟩
  · rw [hkeys] at ht2
    by_cases e : t2 = t
    · subst e; rw [htht, hreg]; exact h.reg' ht2
    · rw [hoth t2 e]; exact h.reg' ht2

theorem Step.setTh {s : Sys} (t : Nat) (th' : Th) (h : th'.pending = (s.th t).pending)
    (ha : th'.alive = (s.th t).alive := by rfl) (hr : th'.registered = (s.th t).registered := by rfl) :
    Step s (s.setTh t th') :=
  Step.channel t th' [] [] rfl (.inl rfl) rfl rfl rfl (by rw [h]; exact .refl _) (fun hc => h ▸ hc.sig' t) (fun _ hc => nomatch hc)
    (fun hal => ⟨ha ▸ hal, by rw [h, List.append_nil]; rfl⟩) hr rfl id rfl rfl rfl

theorem Step.afterSend {s1 : Sys} (t : Nat) {r : Ring Cmd} (r' : Ring Cmd) (th' : Th) (g' : Ghost) (added : List Cmd)
    (hring : s1.ringOf t = some r) (hseq : r'.q ++ th'.pending = r.q ++ (s1.th t).pending ++ added)
    (hsig : ChanInv s1 → ∀ c ∈ th'.pending, c.isSignal = true)
    (ha : g'.accepted = added ++ s1.g.accepted)
    (hab : g'.acceptedBy = (added.map fun c => (t, c)).reverse ++ s1.g.acceptedBy)
    (hal : th'.alive = (s1.th t).alive := by rfl) (hrg : th'.registered = (s1.th t).registered := by rfl)
    (hc : g'.consumed = s1.g.consumed := by rfl) (hd : g'.discarded = s1.g.discarded := by rfl)
    (hl : g'.lostAtExit = s1.g.lostAtExit := by rfl) (hrep : g'.reported = s1.g.reported := by rfl)
    (hdb : g'.drainedBy = s1.g.drainedBy := by rfl) (hi : g'.injected = s1.g.injected := by rfl) :
    Step s1 (((s1.setRing t r').setTh t th').withG g') := by
  have hget : natGet s1.rings t = some r := s1.ringOf_eq t ▸ hring
  -- by rewriting: `rfl` would first try to unify the two states
  have hcyc : (((s1.setRing t r').setTh t th').withG g').cyc = (s1.setRing t r').cyc := by rw [Sys.withG_cyc, Sys.setTh_cyc]
  have hrxs : (((s1.setRing t r').setTh t th').withG g').rxs = (s1.setRing t r').rxs := by rw [Sys.withG_rxs, Sys.setTh_rxs]
  have hrings := (Sys.rings_congr hcyc hrxs).trans (Sys.rings_setRing hring r')
  have hseq' : ringsQ (natSet s1.rings t r') t ++ th'.pending = ringsQ s1.rings t ++ (s1.th t).pending ++ added := by
    rw [ringsQ, ringsQ, natGet_natSet_same, hget]; exact hseq
  refine Step.channel t th' added [] (by rw [← Sys.setRing_threads s1 t r']; rfl) (.inr ⟨r, r', hget, hrings⟩)
    ((Sys.popped_congr hcyc).trans (Sys.popped_setRing s1 t r')) (by rw [Sys.setRing_frame]; rfl) (by rw [Sys.setRing_frame]; rfl)
    (by rw [hrings, List.append_nil, hseq']) hsig
    (fun _ h => nomatch h) (fun h => ⟨hal ▸ h, hrings ▸ hseq'⟩) hrg (by simp only [Sys.withG_coll, Sys.setTh_coll, Sys.setRing_coll])
    (fun h => (Sys.setRing_wf s1 t r' h).congr hcyc) ha hab hl hc hd hrep hdb hi

theorem Step.sendCmd (s : Sys) (t : Nat) (cmd : Cmd) (forced : Bool) (hf : forced = true → cmd.isSignal = true) :
    Step s (s.sendCmd t cmd forced) := by
  unfold Sys.sendCmd
  cases hreg : s.register t with
  | none => exact Step.withG_side _ rfl rfl rfl rfl rfl
  | some s1 =>
    dsimp only
    refine (Step.register t hreg).trans ?_
    cases hring : s1.ringOf t with
    | none => exact Step.withG_side _ rfl rfl rfl rfl rfl
    | some r =>
      cases forced with
      | true =>
        exact Step.afterSend t _ _ _ [cmd] hring (Ring.forceSend_seq r _ cmd) (fun h c hc => by
          rcases Ring.forceSend_pending_sub r _ cmd c hc with hc | rfl
          · exact h.sig' t c hc
          · exact hf rfl) rfl rfl
      | false =>
        have hseq := Ring.send_seq r (s1.th t).pending cmd
        have hsig : ChanInv s1 → ∀ c ∈ (r.send (s1.th t).pending cmd).2.1, c.isSignal = true :=
          fun h c hc => h.sig' t c (Ring.send_pending_sub r _ cmd c hc)
        simp only [Bool.false_eq_true, if_false]
        cases hok : (r.send (s1.th t).pending cmd).2.2
        · rw [hok] at hseq
          exact Step.afterSend t _ _ _ [] hring hseq hsig rfl rfl
        · rw [hok] at hseq
          exact Step.afterSend t _ _ _ [cmd] hring hseq hsig rfl rfl

theorem Step.senderExit (s1 : Sys) (t : Nat) : Step s1 (s1.senderExit t) := by
  -- either way thread `t` ends dead with an empty overflow list; what it held is in its ring or lost
  have key : ∀ (X : Sys) (lost : List Cmd),
      X.threads = natSet s1.threads t { s1.th t with guards := [], alive := false, pending := [] } →
      (X.rings = s1.rings ∨ ∃ r r', natGet s1.rings t = some r ∧ X.rings = natSet s1.rings t r') →
      X.popped = s1.popped → X.deferred = s1.deferred → X.carried = s1.carried →
      (ringsQ X.rings t ++ lost).Perm (ringsQ s1.rings t ++ (s1.th t).pending) →
      (∀ c ∈ lost, c ∈ (s1.th t).pending) → X.coll = s1.coll → (CycWF s1 → CycWF X) →
      Step s1 (X.withG { s1.g with lostAtExit := lost ++ s1.g.lostAtExit }) :=
    fun X lost hths hrings hpop hdef hcar hperm hlost hcoll hwf =>
      Step.channel t _ [] lost hths hrings hpop hdef hcar (by rw [List.append_nil, List.append_nil]; exact hperm)
        (fun _ _ h => nomatch h) hlost (fun h => nomatch h) rfl hcoll hwf rfl rfl rfl
  rcases s1.senderExit_cases t with ⟨r, hring, e⟩ | e <;> rw [e]
  · have hget : natGet s1.rings t = some r := Sys.ringOf_eq _ t ▸ hring
    have hrings := Sys.rings_setRing hring (r.senderDrop (s1.th t).pending)
    refine key _ _ (by rw [Sys.setRing_threads]; rfl) (.inr ⟨r, _, hget, hrings⟩) (Sys.popped_setRing _ t _)
      (by rw [Sys.setRing_frame]; rfl) (by rw [Sys.setRing_frame]; rfl) ?_ (Ring.senderDropLost_sub r _)
      (by rw [Sys.setRing_coll]; rfl) (fun h => Sys.setRing_wf (s1.setTh t _) t _ h)
    rw [ringsQ, ringsQ, hrings, natGet_natSet_same, hget]
    exact Ring.senderDrop_perm r (s1.th t).pending
  · -- without a ring to hand it to, the whole overflow list is lost
    exact key _ _ rfl (.inl rfl) rfl rfl rfl (.refl _) (fun _ hc => hc) rfl id

theorem Moves.step {C : Cmd → Prop} {t : Nat} {s s' : Sys} (h : Moves C t s s') : Step s s' := by
  induction h with
  | refl s => exact Step.refl s
  | trans _ _ ih1 ih2 => exact ih1.trans ih2
  | setTh s th' hp ha hr => exact Step.setTh t th' hp ha hr
  | fields h1 h2 h3 h4 h5 h6 h7 _ => exact Step.of_fields h1 h2 h3 h4 h5 h6 h7
  | send s cmd f hf _ => exact Step.sendCmd s t cmd f hf
  | register hr => exact Step.register t hr
  | senderExit s => exact Step.senderExit s t

theorem exec_step (s : Sys) (t : Nat) (op : Op) (hop : op.isCollectorOp = false) : Step s (exec s t op).1 :=
  (exec_moves s t op hop).step

theorem Step.exitThread (s : Sys) (t : Nat) : Step s (s.exitThread t) := exec_step s t .exit rfl

theorem Step.closeUnder (s : Sys) (t : Nat) : Step s (s.closeUnder t).1 := exec_step s t .closeUnder rfl

theorem Step.collectUnder (s : Sys) (t : Nat) (x : String) : Step s (s.collectUnder t x).1 :=
  exec_step s t (.collectUnder x) rfl

theorem Step.thenSpansAdapters (h : Step s s1) (x : List (String × SpanVal)) (y : List (String × Adapter)) :
    Step s { s1 with spans := x, adapters := y } := h.trans (Step.of_fields rfl rfl rfl rfl rfl rfl rfl)

theorem exec_inv {I : Sys → Prop} {s : Sys} (t : Nat) (op : Op) (h : I s) (hstep : ∀ s', Step s s' → I s')
    (hset : ∀ c, op = .setReporter c →
      I { s with reporterReady := true, coll := { s.coll with cancelable := c, hasReporter := true } })
    (hcycle : s.cyc = none → I s.cycle.1) (hbegin : I s.cycBegin.1) (hcycStep : I s.cycStep.1) : I (exec s t op).1 :=
  exec_ind (P := fun r => I r.1) s t op (fun hc => hstep _ (exec_step s t op hc)) hset (fun _ => h) hcycle (fun _ => hbegin)
    hcycStep

theorem run_inv {I : Sys → Prop} (p : Program) (hexec : ∀ s t op, (t, op) ∈ p → I s → I (exec s t op).1) (s : Sys) (h : I s) :
    I (run s p).1 := by
  induction p generalizing s with
  | nil => exact h
  | cons x rest ih =>
    exact ih (fun s t op hm => hexec s t op (List.mem_cons_of_mem _ hm)) _ (hexec s x.1 x.2 List.mem_cons_self h)

section collInv
/-! `Dflt`, `Sound`, `HasRep` read only the collector and the logs of what it consumed, reported and discarded.
    Thread operations and drain steps touch none of these: such an invariant is kept by every operation as
    soon as processing (`finishCycle`) keeps it. -/
variable {I : Sys → Prop}
  (frame : ∀ {s s' : Sys}, s'.coll = s.coll → s'.g.consumed = s.g.consumed → s'.g.reported = s.g.reported →
    s'.g.discarded = s.g.discarded → I s → I s')
  (fin : ∀ {s : Sys}, I s → ∀ (kept : List (Nat × Ring Cmd)) (buf buf2 : List Cmd), I (s.finishCycle kept buf buf2).1)
include frame fin

theorem collInv_finishCycleP {s : Sys} (h : I s) (kept : List (Nat × Ring Cmd)) (buf buf2 : List Cmd) :
    I (s.finishCycleP kept buf buf2).1 := by
  have := fin h kept buf (buf2 ++ (s.parkedFor buf).1.map Cmd.drop)
  rw [Sys.finishCycleP_eq]
  -- generalised, so that the `rfl`s compare two records and do not unfold `cycleProcess`
  generalize s.finishCycle kept buf _ = r at this
  exact frame (s := r.1) rfl rfl rfl rfl this

theorem collInv_cycStep {s : Sys} (h : I s) : I s.cycStep.1 := by
  rcases s.cycStep_cases with ⟨cs, _, e⟩ | ⟨_, _, _, e, _⟩ <;> rw [e]
  · exact collInv_finishCycleP frame fin h _ _ _
  · exact frame (s := s) rfl rfl rfl rfl h

theorem exec_collInv {s : Sys} (t : Nat) (op : Op) (h : I s)
    (hset : ∀ c, op = .setReporter c →
      I { s with reporterReady := true, coll := { s.coll with cancelable := c, hasReporter := true } }) :
    I (exec s t op).1 := by
  refine exec_inv t op h (fun s' st => frame st.coll st.consumed st.reported st.discarded h) hset (fun _ => ?_) ?_
    (collInv_cycStep frame fin h)
  · exact collInv_finishCycleP frame fin
      (frame (s := s) (s' := s.withG { s.g with drainedBy := (drainAllTagged s.rxs).reverse ++ s.g.drainedBy }) rfl rfl rfl rfl h)
      (drainAll s.rxs).1 (drainAll s.rxs).2 []
  · obtain ⟨c, e⟩ := s.cycBegin_frame
    rw [e]
    exact frame (s := s) rfl rfl rfl rfl h

end collInv

end Fastrace
