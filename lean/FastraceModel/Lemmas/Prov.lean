import FastraceModel.Lemmas.ProvColl
import FastraceModel.Lemmas.Ops

/-!
Provenance, whole system: in every reachable state, every *sampled* token item held anywhere
(span handles, adapters, span lines) carries a trace id from `T`, every *unsampled* one a trace
id from `U` (the ids supplied to unsampled roots), every command in flight (rings, overflow lists, the
drain buffer) and every buffered collection carries a trace id from `T`, the trace ids
supplied to sampled `root` operations so far.  Unsampled items never enter a command.
-/
namespace Fastrace

/-- every item of the token belongs to a known trace of its own sampling kind -/
def TokOk (T U : List Nat) (tok : Token) : Prop :=
  ∀ it ∈ tok, (it.isSampled = true → it.traceId ∈ T) ∧ (it.isSampled = false → it.traceId ∈ U)
def SvOk (T U : List Nat) (sv : SpanVal) : Prop := ∀ sp, sv = some sp → TokOk T U sp.token
def LineOk (T U : List Nat) (l : SpanLine) : Prop := ∀ tok, l.token = some tok → TokOk T U tok
def StackOk (T U : List Nat) (st : Stack) : Prop := ∀ l ∈ st.lines, LineOk T U l
def ThOk (T U : List Nat) (th : Th) : Prop := StackOk T U th.stack ∧ ∀ c ∈ th.pending, CmdOk T c
def RingsOk (T : List Nat) (rs : List (Nat × Ring Cmd)) : Prop := ∀ e ∈ rs, ∀ c ∈ e.2.q, CmdOk T c

structure Prov (T U : List Nat) (s : Sys) : Prop where
  spans : ∀ e ∈ s.spans, SvOk T U e.2
  adapters : ∀ e ∈ s.adapters, ∀ sv, e.2.span = some sv → SvOk T U sv
  threads : ∀ t, ThOk T U (s.th t)
  rxs : RingsOk T s.rxs
  cyc : ∀ cs, s.cyc = some cs → RingsOk T cs.todo ∧ RingsOk T cs.kept ∧ (∀ c ∈ cs.buf, CmdOk T c) ∧ ∀ c ∈ cs.buf2, CmdOk T c
  coll : CollOk T s.coll
  carried : ∀ c ∈ s.carried, CmdOk T c

theorem RingsOk.natSet {T : List Nat} {l : List (Nat × Ring Cmd)} (h : RingsOk T l) (k : Nat) (r : Ring Cmd)
    (hr : ∀ c ∈ r.q, CmdOk T c) : RingsOk T (natSet l k r) := by
  intro e he
  rcases mem_natSet he with he | rfl
  · exact h e he
  · exact hr

theorem RingsOk.natGet {T : List Nat} {l : List (Nat × Ring Cmd)} (h : RingsOk T l) {k : Nat} {r : Ring Cmd}
    (hr : natGet l k = some r) : ∀ c ∈ r.q, CmdOk T c :=
  h _ (natGet_mem hr)

theorem ringsOk_append {T : List Nat} {a b : List (Nat × Ring Cmd)} : RingsOk T (a ++ b) ↔ RingsOk T a ∧ RingsOk T b :=
  List.forall_mem_append

/-- a collector step invents no command: what it pops and what it leaves in the rings was in the rings -/
theorem RingsStep.ringsOk {T : List Nat} {t : Nat} {l l' : List (Nat × Ring Cmd)} {q : List Cmd} (h : RingsStep t l q l')
    (hl : RingsOk T l) : RingsOk T l' ∧ ∀ c ∈ q, CmdOk T c := by
  cases h with
  | pop l1 r l2 =>
    have := ringsOk_append.mp hl
    exact ⟨ringsOk_append.mpr ⟨this.1, fun e he => by
      rcases List.mem_cons.mp he with rfl | he
      · intro c hc; cases hc
      · exact this.2 e (List.mem_cons_of_mem _ he)⟩, this.2 _ List.mem_cons_self⟩
  | rotate r l =>
    exact ⟨ringsOk_append.mpr ⟨fun e he => hl e (List.mem_cons_of_mem _ he),
      fun e he => hl e (by rw [List.mem_singleton.mp he]; exact List.mem_cons_self)⟩, fun c hc => by cases hc⟩
  | drop r l _ => exact ⟨fun e he => hl e (List.mem_cons_of_mem _ he), fun c hc => by cases hc⟩
  | same l => exact ⟨hl, fun c hc => by cases hc⟩

theorem tokClosed_tokOk (T U : List Nat) : TokClosed (TokOk T U) where
  map f hf h := fun it hit => by
    obtain ⟨it0, h0, rfl⟩ := List.mem_map.mp hit
    rw [(hf it0).1, (hf it0).2]; exact h it0 h0
  flatten toks h _ := fun it hit => by
    obtain ⟨tok, htok, hit⟩ := List.mem_flatten.mp hit
    rcases h tok htok with rfl | h
    · cases hit
    · exact h it hit
  head {it0 _} h p cid r := fun it hit => by rw [List.mem_singleton.mp hit]; exact h it0 List.mem_cons_self

/-- the command a `TokOk` token gives rise to carries sampled roots' trace ids only: unsampled items are filtered out -/
theorem CmdQ.cmdOk {T U : List Nat} : ∀ {c : Cmd}, CmdQ (TokOk T U) c → CmdOk T c
  | .submit _ _, ⟨_, h, e⟩ => fun it hit => by
    rw [e] at hit
    exact (h it (List.mem_filter.mp hit).1).1 (List.mem_filter.mp hit).2
  | .start _, _ | .commit _, _ | .drop _, _ => trivial

/-- the command half of `Prov`: everything in flight and everything the collector buffers -/
structure Flight (T : List Nat) (s : Sys) : Prop where
  pending : ∀ t, ∀ c ∈ (s.th t).pending, CmdOk T c
  rxs : RingsOk T s.rxs
  cyc : ∀ cs, s.cyc = some cs → RingsOk T cs.todo ∧ RingsOk T cs.kept ∧ (∀ c ∈ cs.buf, CmdOk T c) ∧ ∀ c ∈ cs.buf2, CmdOk T c
  coll : CollOk T s.coll
  carried : ∀ c ∈ s.carried, CmdOk T c

theorem prov_iff {T U : List Nat} {s : Sys} : Prov T U s ↔ Toks (TokOk T U) s ∧ Flight T s :=
  ⟨fun h => ⟨⟨h.spans, h.adapters, fun t => (h.threads t).1⟩, ⟨fun t => (h.threads t).2, h.rxs, h.cyc, h.coll, h.carried⟩⟩,
   fun ⟨ht, hf⟩ => ⟨ht.spans, ht.adapters, fun t => ⟨ht.lines t, hf.pending t⟩, hf.rxs, hf.cyc, hf.coll, hf.carried⟩⟩

section flight
variable {T : List Nat} {s : Sys}

theorem Flight.setTh (h : Flight T s) (t : Nat) (th : Th) (hp : ∀ c ∈ th.pending, CmdOk T c) : Flight T (s.setTh t th) :=
  ⟨Sys.th_setTh_ind (P := fun _ th => ∀ c ∈ th.pending, CmdOk T c) hp h.pending, h.rxs, h.cyc, h.coll, h.carried⟩

theorem Flight.withG (h : Flight T s) (g : Ghost) : Flight T (s.withG g) := ⟨h.pending, h.rxs, h.cyc, h.coll, h.carried⟩

theorem Flight.register {s' : Sys} (h : Flight T s) (t : Nat) (hr : s.register t = some s') : Flight T s' := by
  rcases Sys.register_cases hr with rfl | ⟨hn, -⟩
  · exact h
  · have h1 := h.setTh t { s.th t with registered := true } (h.pending t)
    have hnew : RingsOk T [(t, (Ring.new Consts.ringCap : Ring Cmd))] := fun e he c hc => by
      rw [List.mem_singleton.mp he] at hc; cases hc
    rcases Sys.register_where hr hn with ⟨_, rfl⟩ | ⟨cs, hc, rfl⟩
    · exact ⟨h1.pending, ringsOk_append.mpr ⟨h.rxs, hnew⟩, h1.cyc, h1.coll, h1.carried⟩
    · obtain ⟨c1, c2, c3, c4⟩ := h.cyc cs hc
      exact ⟨h1.pending, h1.rxs, fun cs' e => by cases e; exact ⟨c1, ringsOk_append.mpr ⟨c2, hnew⟩, c3, c4⟩, h1.coll, h1.carried⟩

theorem Flight.ringOf (h : Flight T s) {t : Nat} {r : Ring Cmd} (hr : s.ringOf t = some r) : ∀ c ∈ r.q, CmdOk T c := by
  rw [Sys.ringOf_eq, Sys.rings] at hr
  cases hc : s.cyc with
  | none => rw [hc] at hr; exact h.rxs.natGet hr
  | some cs =>
    rw [hc] at hr
    obtain ⟨h1, h2, _, _⟩ := h.cyc cs hc
    exact (ringsOk_append.mpr ⟨h1, h2⟩).natGet hr

theorem Flight.setRing (h : Flight T s) (t : Nat) (r : Ring Cmd) (hr : ∀ c ∈ r.q, CmdOk T c) : Flight T (s.setRing t r) := by
  refine Sys.setRing_ind s t r (fun _ => ⟨h.pending, h.rxs.natSet t r hr, h.cyc, h.coll, h.carried⟩)
    (fun cs todo kept hc e => ?_) fun _ => h
  obtain ⟨h1, h2, h3, h4⟩ := h.cyc cs hc
  have hk := ringsOk_append.mp (e ▸ (ringsOk_append.mpr ⟨h1, h2⟩).natSet t r hr)
  exact ⟨h.pending, h.rxs, fun cs' e' => by cases e'; exact ⟨hk.1, hk.2, h3, h4⟩, h.coll, h.carried⟩

theorem Flight.sendCmd (h : Flight T s) (t : Nat) (cmd : Cmd) (forced : Bool) (hc : CmdOk T cmd) :
    Flight T (s.sendCmd t cmd forced) := by
  have h1 : ∀ {s1}, s1 = s ∨ s.register t = some s1 → Flight T s1 := fun hs1 => hs1.elim (fun e => e ▸ h) (h.register t)
  refine s.sendCmd_ind t cmd forced (fun s1 g hs1 => (h1 hs1).withG g) fun s1 r r' p g hs1 hring hsub => ?_
  have := List.forall_mem_append.mp fun y hy => List.forall_mem_append.mpr
    ⟨List.forall_mem_append.mpr ⟨(h1 hs1).ringOf hring, (h1 hs1).pending t⟩, fun y hy => by rw [List.mem_singleton.mp hy]; exact hc⟩
    y (hsub y hy)
  exact (((h1 hs1).setRing t r' this.1).setTh t _ this.2).withG g

theorem Flight.senderExit (h : Flight T s) (t : Nat) : Flight T (s.senderExit t) := by
  have h2 := h.setTh t { s.th t with guards := [], alive := false, pending := [] } (fun c hc => nomatch hc)
  rcases s.senderExit_cases t with ⟨r, hr, e⟩ | e <;> rw [e]
  · exact (h2.setRing t _ fun c hc => (List.forall_mem_append.mpr ⟨h2.ringOf hr, h.pending t⟩) c
      ((Ring.senderDrop_perm r _).subset (List.mem_append_left _ hc))).withG _
  · exact h2.withG _

theorem Flight.moves {C : Cmd → Prop} {t : Nat} {s' : Sys} (hC : ∀ c, C c → CmdOk T c) (hm : Moves C t s s') (h : Flight T s) :
    Flight T s' := by
  induction hm with
  | refl => exact h
  | trans _ _ ih1 ih2 => exact ih2 (ih1 h)
  | setTh s th' hp => exact h.setTh t th' (hp ▸ h.pending t)
  | fields h1 h2 h3 _ _ h6 h7 =>
    exact ⟨fun t => by rw [Sys.th_congr h3]; exact h.pending t, h2 ▸ h.rxs, h1 ▸ h.cyc, h6 ▸ h.coll, h7 ▸ h.carried⟩
  | send s cmd f _ hc => exact h.sendCmd t cmd f (hC cmd hc)
  | register hr => exact h.register t hr
  | senderExit s => exact h.senderExit t

end flight

theorem Prov.withG {T U : List Nat} {s : Sys} (h : Prov T U s) (g : Ghost) : Prov T U (s.withG g) :=
  ⟨h.spans, h.adapters, h.threads, h.rxs, h.cyc, h.coll, h.carried⟩

theorem Prov.register {T U : List Nat} {s s' : Sys} (h : Prov T U s) (t : Nat) (hr : s.register t = some s') : Prov T U s' :=
  prov_iff.mpr ⟨(prov_iff.mp h).1.untouched (Sys.register_untouched hr), (prov_iff.mp h).2.register t hr⟩

theorem Prov.sendCmd {T U : List Nat} {s : Sys} (h : Prov T U s) (t : Nat) (cmd : Cmd) (forced : Bool) (hc : CmdOk T cmd) :
    Prov T U (s.sendCmd t cmd forced) :=
  prov_iff.mpr ⟨(prov_iff.mp h).1.untouched (s.sendCmd_untouched t cmd forced), (prov_iff.mp h).2.sendCmd t cmd forced hc⟩

end Fastrace
