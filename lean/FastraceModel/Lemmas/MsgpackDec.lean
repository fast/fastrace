import FastraceModel.Model.Report.Datadog

/-! msgpack primitives: decoders and round-trip lemmas for the encodings of
`Model/Report/Datadog.lean` (rmp's smallest-form integers, strings, map/array headers) -/
namespace Fastrace.Datadog

def ofBe : List Nat → Nat
  | [] => 0
  | b :: rest => b * 256 ^ rest.length + ofBe rest

@[simp] theorem be_length (w n : Nat) : (be w n).length = w := by
  induction w with
  | zero => rfl
  | succ w ih => simp [be, ih]

theorem ofBe_be (w n : Nat) : ofBe (be w n) = n % 256 ^ w := by
  induction w with
  | zero => simp [be, ofBe, Nat.mod_one]
  | succ w ih =>
    simp only [be, ofBe, be_length, ih]
    rw [Nat.mod_pow_succ, Nat.mul_comm, Nat.add_comm]

def takeBe (w : Nat) (bs : List Nat) : Option (Nat × List Nat) :=
  if w ≤ bs.length then some (ofBe (bs.take w), bs.drop w) else none

/-- `dec` reads `v` off the front of whatever begins with `enc`, and hands back what follows -/
def Reads {α : Type} (dec : List Nat → Option (α × List Nat)) (v : α) (enc : List Nat) : Prop :=
  ∀ rest, dec (enc ++ rest) = some (v, rest)

theorem takeBe_be (w : Nat) {n : Nat} (h : n < 256 ^ w) : Reads (takeBe w) n (be w n) := fun rest => by
  simp [takeBe, List.take_left' (be_length w n), List.drop_left' (be_length w n), ofBe_be, Nat.mod_eq_of_lt h]

theorem be1 (v : Nat) (h : v < 256) : be 1 v = [v] := by simp [be, Nat.mod_eq_of_lt h]

/-! Every multi-byte msgpack form is a marker byte on which the decoder reads `w` big-endian
bytes, then returns them (`dec_marker`), sign-extends them (`dec_marker_sext`, further down) or
goes on reading (`dec_marker_bind`: string bodies). `hdec` is `fun _ => rfl` for a concrete
decoder and marker. The encoders choose the form by a chain of conditionals, which
`iteInduction` follows: `Reads` has the encoding as its last argument for that. -/

theorem dec_marker_bind {β : Type} {dec : List Nat → Option β} {m w : Nat} {k : Nat × List Nat → Option β}
    (hdec : ∀ r, dec (m :: r) = (takeBe w r).bind k) (n : Nat) (rest : List Nat) (h : n < 256 ^ w) :
    dec (m :: be w n ++ rest) = k (n, rest) := by
  rw [List.cons_append, hdec, takeBe_be w h rest]; rfl

theorem dec_marker {dec : List Nat → Option (Nat × List Nat)} {m w n : Nat} (hdec : ∀ r, dec (m :: r) = takeBe w r)
    (h : n < 256 ^ w) : Reads dec n (m :: be w n) :=
  fun rest => (hdec _).trans (takeBe_be w h rest)

/-- unsigned integer in any of rmp's forms -/
def decUint : List Nat → Option (Nat × List Nat)
  | [] => none
  | b :: rest =>
    if b < 128 then some (b, rest)
    else if b = 0xcc then takeBe 1 rest
    else if b = 0xcd then takeBe 2 rest
    else if b = 0xce then takeBe 4 rest
    else if b = 0xcf then takeBe 8 rest
    else none

/-- signed integer, returned as its u64 bit pattern -/
def decSint : List Nat → Option (Nat × List Nat)
  | [] => none
  | b :: rest =>
    if b < 128 then some (b, rest)
    else if 0xe0 ≤ b ∧ b < 256 then some (2 ^ 64 - 256 + b, rest)
    else if b = 0xcc then takeBe 1 rest
    else if b = 0xcd then takeBe 2 rest
    else if b = 0xce then takeBe 4 rest
    else if b = 0xcf then takeBe 8 rest
    else if b = 0xd0 then (takeBe 1 rest).map fun (x, r) => (if 128 ≤ x then 2 ^ 64 - 256 + x else x, r)
    else if b = 0xd1 then (takeBe 2 rest).map fun (x, r) => (if 32768 ≤ x then 2 ^ 64 - 65536 + x else x, r)
    else if b = 0xd2 then (takeBe 4 rest).map fun (x, r) => (if 2147483648 ≤ x then 2 ^ 64 - 4294967296 + x else x, r)
    else if b = 0xd3 then takeBe 8 rest
    else none

/-- `write_uint` is read back by any decoder that knows the positive fixint and the four
    unsigned markers: `decUint` and `decSint` both do -/
theorem dec_mpUint {dec : List Nat → Option (Nat × List Nat)}
    (hfix : ∀ b r, b < 128 → dec (b :: r) = some (b, r)) (hcc : ∀ r, dec (0xcc :: r) = takeBe 1 r)
    (hcd : ∀ r, dec (0xcd :: r) = takeBe 2 r) (hce : ∀ r, dec (0xce :: r) = takeBe 4 r)
    (hcf : ∀ r, dec (0xcf :: r) = takeBe 8 r) {v : Nat} (h : v < 2 ^ 64) : Reads dec v (mpUint v) := by
  unfold mpUint
  refine iteInduction (fun h1 rest => hfix v rest h1) fun _ => ?_
  refine iteInduction (fun h2 => be1 v h2 ▸ dec_marker hcc h2) fun _ => ?_
  refine iteInduction (dec_marker hcd) fun _ => ?_
  exact iteInduction (dec_marker hce) fun _ => dec_marker hcf h

theorem decUint_mpUint {v : Nat} (h : v < 2 ^ 64) : Reads decUint v (mpUint v) :=
  dec_mpUint (fun _ _ hb => if_pos hb) (fun _ => rfl) (fun _ => rfl) (fun _ => rfl) (fun _ => rfl) h

theorem decSint_of_uint {v : Nat} (h : v < 2 ^ 64) : Reads decSint v (mpUint v) :=
  dec_mpUint (fun _ _ hb => if_pos hb) (fun _ => rfl) (fun _ => rfl) (fun _ => rfl) (fun _ => rfl) h

/-- sign extension from any width: a bit pattern `u` among the top `W` of the range (`c` the
    first of them, a multiple of `W`) is `c` plus its residue mod `W`, and that residue is at
    least as far above `0` as `u` is above `c` -/
theorem mod_top (W c t u : Nat) (hc : W ∣ c) (hlo : c + t ≤ u) (hhi : u < c + W) :
    t ≤ u % W ∧ c + u % W = u := by
  obtain ⟨k, rfl⟩ := hc
  obtain ⟨d, rfl⟩ := Nat.le.dest hlo
  rw [Nat.add_assoc] at hhi ⊢
  rw [Nat.mul_add_mod, Nat.mod_eq_of_lt (Nat.lt_of_add_lt_add_left hhi)]
  exact ⟨Nat.le_add_right t d, rfl⟩

/-- a signed form of `w` bytes: the decoder adds `c` to what it reads from `t` upwards -/
theorem dec_marker_sext {dec : List Nat → Option (Nat × List Nat)} {m w c t u : Nat}
    (hdec : ∀ r, dec (m :: r) = (takeBe w r).map fun (x, r) => (if t ≤ x then c + x else x, r))
    (hc : 256 ^ w ∣ c) (hlo : c + t ≤ u) (hhi : u < c + 256 ^ w) : Reads dec u (m :: be w (u % 256 ^ w)) := by
  obtain ⟨hge, hx⟩ := mod_top _ c t u hc hlo hhi
  intro rest
  rw [List.cons_append, hdec, takeBe_be w (Nat.mod_lt _ (Nat.pow_pos (by decide))) rest]
  dsimp only [Option.map_some]
  rw [if_pos hge, hx]

theorem decSint_mpSint {u : Nat} (h : u < 2 ^ 64) : Reads decSint u (mpSint u) := by
  unfold mpSint
  refine iteInduction (fun _ => decSint_of_uint h) fun _ => ?_
  refine iteInduction (fun h1 rest => ?_) fun _ => ?_
  · -- negative fixint: the byte is the low byte of `u`
    obtain ⟨hge, hx⟩ := mod_top 256 (2 ^ 64 - 256) 0xe0 u (by decide) h1 h
    show decSint (u % 256 :: rest) = _
    rw [decSint, if_neg (Nat.not_lt.mpr (Nat.le_trans (by decide : 128 ≤ 0xe0) hge)),
      if_pos ⟨hge, Nat.mod_lt _ (by decide)⟩, hx]
  refine iteInduction (fun h2 => ?_) fun _ => ?_
  · rw [← be1 (u % 256) (Nat.mod_lt _ (by decide))]
    exact dec_marker_sext (w := 1) (fun _ => rfl) (by decide) h2 h
  refine iteInduction (fun h3 => dec_marker_sext (w := 2) (fun _ => rfl) (by decide) h3 h) fun _ => ?_
  exact iteInduction (fun h4 => dec_marker_sext (w := 4) (fun _ => rfl) (by decide) h4 h) fun _ =>
    dec_marker (fun _ => rfl) h

def takeN (n : Nat) (bs : List Nat) : Option (List Nat × List Nat) :=
  if n ≤ bs.length then some (bs.take n, bs.drop n) else none

theorem takeN_append (a rest : List Nat) : takeN a.length (a ++ rest) = some (a, rest) := by
  simp [takeN]

def decStr : List Nat → Option (List Nat × List Nat)
  | [] => none
  | b :: rest =>
    if 0xa0 ≤ b ∧ b < 0xc0 then takeN (b - 0xa0) rest
    else if b = 0xd9 then (takeBe 1 rest).bind fun (n, r) => takeN n r
    else if b = 0xda then (takeBe 2 rest).bind fun (n, r) => takeN n r
    else if b = 0xdb then (takeBe 4 rest).bind fun (n, r) => takeN n r
    else none

theorem decStr_mpStr {s : List Nat} (h : s.length < 2 ^ 32) : Reads decStr s (mpStr s) := by
  intro rest
  unfold mpStr
  rw [List.append_assoc]
  by_cases h1 : s.length < 32
  · rw [if_pos h1]
    show decStr ((0xa0 + s.length) :: (s ++ rest)) = _
    rw [decStr, if_pos ⟨Nat.le_add_right _ _, Nat.add_lt_add_left h1 0xa0⟩, Nat.add_sub_cancel_left]
    exact takeN_append s rest
  by_cases h2 : s.length < 256
  · rw [if_neg h1, if_pos h2, ← be1 _ h2]
    exact (dec_marker_bind (w := 1) (fun _ => rfl) _ _ h2).trans (takeN_append s rest)
  by_cases h3 : s.length < 65536
  · rw [if_neg h1, if_neg h2, if_pos h3]
    exact (dec_marker_bind (w := 2) (fun _ => rfl) _ _ h3).trans (takeN_append s rest)
  · rw [if_neg h1, if_neg h2, if_neg h3]
    exact (dec_marker_bind (w := 4) (fun _ => rfl) _ _ h).trans (takeN_append s rest)

/-- map header (`kind = 0x80`, 16-bit `0xde`, 32-bit `0xdf`) / array header (`0x90`, `0xdc`, `0xdd`) -/
def decLen (fix m16 m32 : Nat) : List Nat → Option (Nat × List Nat)
  | [] => none
  | b :: rest =>
    if fix ≤ b ∧ b < fix + 16 then some (b - fix, rest)
    else if b = m16 then takeBe 2 rest
    else if b = m32 then takeBe 4 rest
    else none

/-- both headers at once: any fixed range and two markers outside it -/
theorem decLen_enc {fix m16 m32 n : Nat} (h : n < 2 ^ 32)
    (h16 : ¬ (fix ≤ m16 ∧ m16 < fix + 16)) (h32 : ¬ (fix ≤ m32 ∧ m32 < fix + 16)) (hne : m32 ≠ m16) :
    Reads (decLen fix m16 m32) n (if n < 16 then [fix + n] else if n < 65536 then m16 :: be 2 n else m32 :: be 4 n) := by
  refine iteInduction (fun h1 rest => ?_) fun _ => ?_
  · show decLen fix m16 m32 ((fix + n) :: rest) = _
    rw [decLen, if_pos ⟨Nat.le_add_right _ _, Nat.add_lt_add_left h1 fix⟩, Nat.add_sub_cancel_left]
  refine iteInduction (dec_marker (w := 2) fun r => ?_) fun _ => dec_marker (w := 4) (fun r => ?_) h
  · simp only [decLen, h16, if_false, if_true]
  · simp only [decLen, h32, hne, if_false, if_true]

theorem decLen_map {n : Nat} (h : n < 2 ^ 32) : Reads (decLen 0x80 0xde 0xdf) n (mpMapLen n) :=
  decLen_enc h (by decide) (by decide) (by decide)

theorem decLen_arr {n : Nat} (h : n < 2 ^ 32) : Reads (decLen 0x90 0xdc 0xdd) n (mpArrLen n) :=
  decLen_enc h (by decide) (by decide) (by decide)

end Fastrace.Datadog
