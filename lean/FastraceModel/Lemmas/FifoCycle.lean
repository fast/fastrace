import FastraceModel.Lemmas.FlowCycle

/-!
The per-thread order invariant under the collector's operations: a drain moves the contents
of one thread's ring, in order, into what has been popped from that thread; nothing else.
Then `exec` and `run`.
-/
namespace Fastrace

theorem FifoInv.init : FifoInv Sys.init := ⟨fun _ _ => rfl, List.nodup_nil, fun _ ht => nomatch ht⟩

theorem byT_drainAllTagged (t : Nat) (l : List (Nat × Ring Cmd)) (hn : (l.map (·.1)).Nodup) :
    byT t (drainAllTagged l) = ringsQ l t := by
  induction l with
  | nil => rfl
  | cons e rest ih =>
    obtain ⟨k, r⟩ := e
    have hn := List.nodup_cons.mp hn
    rw [drainAllTagged, byT_append, byT_tagged, ringsQ_cons, ih hn.2]
    by_cases e : t = k
    · rw [if_pos e, if_pos e, e, ringsQ_of_notin hn.1, List.append_nil]
    · rw [if_neg e, if_neg e]; rfl

theorem drainAll_keys_sub (l : List (Nat × Ring Cmd)) : ((drainAll l).1.map (·.1)).Sublist (l.map (·.1)) := by
  rw [drainAll_kept, List.map_map]
  exact List.filter_sublist.map _

theorem drainAll_kept_empty (l : List (Nat × Ring Cmd)) (t : Nat) : ringsQ (drainAll l).1 t = [] := by
  unfold ringsQ
  cases hg : natGet (drainAll l).1 t with
  | none => rfl
  | some r => exact (mem_drainAll_kept (natGet_mem hg)).2

theorem FifoInv.finishCycle {s : Sys} (h : FifoInv s) (kept : List (Nat × Ring Cmd)) (buf buf2 : List Cmd)
    (hro : ∀ t, natGet kept t = s.ringOf t) (hkeys : kept.map (·.1) = s.ringKeys) :
    FifoInv (s.finishCycleP kept buf buf2).1 := by
  obtain ⟨f1, f2, f3, fa, fd⟩ := Sys.finishCycleP_fields s kept buf buf2
  have hr : (s.finishCycleP kept buf buf2).1.rings = kept := by unfold Sys.rings; rw [f1, f2]
  exact h.of_lookup (fun t => by rw [hr, hro, Sys.ringOf_eq]) (by rw [hr, hkeys, Sys.ringKeys_eq]) f3 fa fd

theorem FifoInv.cycBegin {s : Sys} (h : FifoInv s) : FifoInv s.cycBegin.1 := by
  rcases s.cycBegin_cases with ⟨w, e⟩ | ⟨ph, p, hc, -, e⟩ <;> rw [e]
  · exact h
  · have hr : s.rings = s.rxs := by unfold Sys.rings; rw [hc]
    exact h.of_same (by rw [hr]; exact List.append_nil _) rfl rfl rfl

theorem FifoInv.cycle {s : Sys} (h : FifoInv s) (hc : s.cyc = none) : FifoInv s.cycle.1 := by
  unfold Sys.cycle
  have hr : s.rings = s.rxs := by unfold Sys.rings; rw [hc]
  have hn : (s.rxs.map (·.1)).Nodup := hr ▸ h.nodup'
  obtain ⟨f1, f2, f3, fa, fd⟩ := Sys.finishCycleP_fields
    (s.withG { s.g with drainedBy := (drainAllTagged s.rxs).reverse ++ s.g.drainedBy }) (drainAll s.rxs).1 (drainAll s.rxs).2 []
  generalize ((s.withG _).finishCycleP (drainAll s.rxs).1 (drainAll s.rxs).2 []).1 = S' at f1 f2 f3 fa fd ⊢
  have hr' : S'.rings = (drainAll s.rxs).1 := by unfold Sys.rings; rw [f1, f2]
  have f3 : ∀ t, S'.th t = s.th t := f3
  refine h.step [] (drainAllTagged s.rxs) fa fd (fun t ha => ?_) ?_ fun t ht => ?_
  · rw [f3] at ha ⊢
    rw [hr', hr, drainAll_kept_empty, byT_drainAllTagged t s.rxs hn, byT_nil, List.append_nil, List.append_nil]
    exact ⟨ha, rfl⟩
  · rw [hr']
    exact (drainAll_keys_sub s.rxs).nodup hn
  · rw [hr'] at ht
    rw [f3]
    exact h.reg' (hr ▸ (drainAll_keys_sub s.rxs).subset ht)

theorem FifoInv.cycStep {s : Sys} (h : FifoInv s) (hw : CycWF s) : FifoInv s.cycStep.1 := by
  cases hc : s.cyc with
  | none => rw [Sys.cycStep_none hc]; exact h
  | some cs =>
    have hr : s.rings = cs.todo ++ cs.kept := by unfold Sys.rings; rw [hc]
    by_cases hph : cs.phase = .atReport
    · rw [Sys.cycStep_report hc hph]
      have ht := hw cs hc (.inr hph)
      exact h.finishCycle cs.kept cs.buf cs.buf2 (fun t => by rw [Sys.ringOf_eq, hr, ht]; rfl)
        (by rw [Sys.ringKeys_eq, hr, ht]; rfl)
    · obtain ⟨cs', t, q, ph, e, hrs, _, _⟩ := Sys.cycStep_drain hc hph
      rw [e]
      exact h.drain (hr ▸ hrs) rfl rfl rfl

theorem exec_fifo (s : Sys) (t : Nat) (op : Op) (hc : ChanInv s) (h : FifoInv s) : FifoInv (exec s t op).1 :=
  exec_inv t op h (fun _ st => st.fifo h) (fun _ _ => ⟨h.order, h.nodup, h.reg⟩) h.cycle h.cycBegin (h.cycStep hc.wf)

theorem run_fifo (p : Program) (s : Sys) (hc : ChanInv s) (h : FifoInv s) : FifoInv (run s p).1 :=
  (run_inv (I := fun s => ChanInv s ∧ FifoInv s) p
    (fun s t op _ h => ⟨exec_chan s t op h.1, exec_fifo s t op h.1 h.2⟩) s ⟨hc, h⟩).2

end Fastrace
