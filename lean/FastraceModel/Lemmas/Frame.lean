import FastraceModel.Lemmas.Local
import FastraceModel.Model.Api

/-!
The frame invariant behind C10 (and the local part of C07 / C02): a well-nested piece of a
thread's program leaves the thread's span stack as it found it, except that span queues may
have grown.
-/
namespace Fastrace

def Th.loc (th : Th) : Stack × List Guard × Nat := (th.stack, th.guards, th.pref)

/-- every entry of `a` is still at its index in `b`, with the same id and parent -/
def Keeps (a b : List RawSpan) : Prop :=
  ∀ (i : Nat) (sp : RawSpan), a[i]? = some sp →
    ∃ sp' : RawSpan, b[i]? = some sp' ∧ sp'.id = sp.id ∧ sp'.parentId = sp.parentId

theorem Keeps.refl (a : List RawSpan) : Keeps a a := fun _ sp h => ⟨sp, h, rfl, rfl⟩

theorem Keeps.trans {a b c : List RawSpan} (h1 : Keeps a b) (h2 : Keeps b c) : Keeps a c := by
  intro i sp h
  obtain ⟨sp', h', e1, e2⟩ := h1 i sp h
  obtain ⟨sp'', h'', e3, e4⟩ := h2 i sp' h'
  exact ⟨sp'', h'', e3.trans e1, e4.trans e2⟩

theorem Keeps.append (a l : List RawSpan) : Keeps a (a ++ l) := fun i sp h =>
  ⟨sp, by rw [List.getElem?_append_left (List.getElem?_eq_some_iff.mp h).1]; exact h, rfl, rfl⟩

theorem Keeps.set {a : List RawSpan} {idx : Nat} {s x : RawSpan} (hs : a[idx]? = some s) (hid : x.id = s.id)
    (hp : x.parentId = s.parentId) : Keeps a (a.set idx x) := by
  intro i sp h
  by_cases e : idx = i
  · subst e
    cases hs.symm.trans h
    exact ⟨x, by rw [List.getElem?_set_self (List.getElem?_eq_some_iff.mp h).1], hid, hp⟩
  · exact ⟨sp, by rw [List.getElem?_set_ne e]; exact h, rfl, rfl⟩

/-- `l'` is `l` later: same scope identity, token, sampling decision and innermost open local
    span; the queue has only grown, and every entry that was there keeps its id and parent -/
def LineExt (l l' : SpanLine) : Prop :=
  l'.epoch = l.epoch ∧ l'.token = l.token ∧ l'.isSampled = l.isSampled ∧
  l'.queue.nextParent = l.queue.nextParent ∧ l'.queue.cap = l.queue.cap ∧
  ∀ (i : Nat) (sp : RawSpan), l.queue.spans[i]? = some sp →
    ∃ sp' : RawSpan, l'.queue.spans[i]? = some sp' ∧ sp'.id = sp.id ∧ sp'.parentId = sp.parentId

theorem LineExt.refl (l : SpanLine) : LineExt l l := ⟨rfl, rfl, rfl, rfl, rfl, Keeps.refl _⟩

theorem LineExt.token {l l' : SpanLine} (h : LineExt l l') : l'.token = l.token := h.2.1

theorem LineExt.trans {a b c : SpanLine} (h1 : LineExt a b) (h2 : LineExt b c) : LineExt a c := by
  obtain ⟨e1, t1, s1, p1, c1, k1⟩ := h1
  obtain ⟨e2, t2, s2, p2, c2, k2⟩ := h2
  exact ⟨e2.trans e1, t2.trans t1, s2.trans s1, p2.trans p1, c2.trans c1, Keeps.trans k1 k2⟩

theorem LineExt.ofQueue {l : SpanLine} {q : SpanQueue} (hp : q.nextParent = l.queue.nextParent) (hc : q.cap = l.queue.cap)
    (hk : Keeps l.queue.spans q.spans) : LineExt l { l with queue := q } := ⟨rfl, rfl, rfl, hp, hc, hk⟩

def LinesExt : List SpanLine → List SpanLine → Prop
  | [], [] => True
  | l :: ls, l' :: ls' => LineExt l l' ∧ LinesExt ls ls'
  | _, _ => False

theorem LinesExt.refl : ∀ ls, LinesExt ls ls
  | [] => trivial
  | l :: ls => ⟨LineExt.refl l, LinesExt.refl ls⟩

theorem LinesExt.nil_left {b : List SpanLine} (h : LinesExt [] b) : b = [] := by
  cases b with
  | nil => rfl
  | cons _ _ => exact h.elim

theorem LinesExt.cons_left {a : SpanLine} {as b : List SpanLine} (h : LinesExt (a :: as) b) :
    ∃ b0 bs, b = b0 :: bs ∧ LineExt a b0 ∧ LinesExt as bs := by
  cases b with
  | nil => exact h.elim
  | cons b0 bs => exact ⟨b0, bs, rfl, h.1, h.2⟩

theorem LinesExt.trans {a b c : List SpanLine} (h1 : LinesExt a b) (h2 : LinesExt b c) : LinesExt a c := by
  induction a generalizing b c with
  | nil => rw [h1.nil_left] at h2; rw [h2.nil_left]; trivial
  | cons x xs ih =>
    obtain ⟨y, ys, rfl, hxy, hs⟩ := h1.cons_left
    obtain ⟨z, zs, rfl, hyz, hs'⟩ := h2.cons_left
    exact ⟨hxy.trans hyz, ih hs hs'⟩

theorem Stack.modifyHead_ext {st st' : Stack} {f : SpanLine → SpanLine}
    (h : st' = { st with lines := st.lines.modifyHead f }) (hf : ∀ l, LineExt l (f l)) :
    LinesExt st.lines st'.lines ∧ st'.cap = st.cap := by
  obtain ⟨_ | ⟨l, ls⟩, _, _⟩ := st <;> subst h
  · exact ⟨trivial, rfl⟩
  · exact ⟨⟨hf l, LinesExt.refl ls⟩, rfl⟩

/-- the thread-local state is preserved up to queue growth -/
def Pres (th th' : Th) : Prop :=
  th'.guards = th.guards ∧ LinesExt th.stack.lines th'.stack.lines ∧ th'.stack.cap = th.stack.cap ∧
  th'.pref = th.pref

theorem Pres.refl (th : Th) : Pres th th := ⟨rfl, LinesExt.refl _, rfl, rfl⟩

theorem Pres.trans {a b c : Th} (h1 : Pres a b) (h2 : Pres b c) : Pres a c := by
  obtain ⟨g1, l1, c1, p1⟩ := h1
  obtain ⟨g2, l2, c2, p2⟩ := h2
  exact ⟨g2.trans g1, l1.trans l2, c2.trans c1, p2.trans p1⟩

theorem Pres.of_loc_eq {th th' : Th} {st : Stack} {gs : List Guard} {p : Nat} (hloc : th'.loc = (st, gs, p))
    (hgs : gs = th.guards) (hl : LinesExt th.stack.lines st.lines) (hc : st.cap = th.stack.cap)
    (hp : p = th.pref) : Pres th th' := by
  simp only [Th.loc, Prod.mk.injEq] at hloc
  obtain ⟨h1, h2, h3⟩ := hloc
  exact ⟨h2.trans hgs, h1 ▸ hl, h1 ▸ hc, h3.trans hp⟩

theorem Pres.of_loc {th th' : Th} (h : th'.loc = th.loc) : Pres th th' :=
  .of_loc_eq h rfl (LinesExt.refl _) rfl rfl

theorem Pres.setStack (th : Th) {st : Stack} (h : LinesExt th.stack.lines st.lines ∧ st.cap = th.stack.cap) :
    Pres th { th with stack := st } := ⟨rfl, h.1, h.2, rfl⟩

/-- no scope has the zero id as innermost span -/
def GoodLines (ls : List SpanLine) : Prop := ∀ l ∈ ls, l.queue.nextParent ≠ some 0

theorem GoodLines.cons {l : SpanLine} {ls : List SpanLine} (hl : l.queue.nextParent ≠ some 0) (h : GoodLines ls) :
    GoodLines (l :: ls) :=
  List.forall_mem_cons.mpr ⟨hl, h⟩

theorem GoodLines.of_linesExt {a b : List SpanLine} (hg : GoodLines a) (h : LinesExt a b) : GoodLines b := by
  induction a generalizing b with
  | nil => exact h.nil_left ▸ hg
  | cons x xs ih =>
    obtain ⟨y, ys, rfl, ⟨-, -, -, hpar, -⟩, hs⟩ := h.cons_left
    exact .cons (hpar ▸ hg x (List.mem_cons_self ..)) (ih (fun l hl => hg l (List.mem_cons_of_mem _ hl)) hs)

/-- ids are drawn with a non-zero prefix and no scope has the zero id as innermost span -/
def Good (th : Th) : Prop := 1 ≤ th.pref ∧ ∀ l ∈ th.stack.lines, l.queue.nextParent ≠ some 0

theorem Good.of_pres {th th' : Th} (hg : Good th) (hp : Pres th th') : Good th' := by
  obtain ⟨-, hl, -, hpref⟩ := hp
  exact ⟨hpref ▸ hg.1, GoodLines.of_linesExt hg.2 hl⟩

/-- the observable frame (C10) is a function of what `LinesExt` preserves -/
def Stack.frame (st : Stack) : List (Nat × Option Token × Bool × Option Nat) :=
  st.lines.map fun l => (l.epoch, l.token, l.isSampled, l.queue.nextParent)

theorem LinesExt.frame {a b : List SpanLine} (h : LinesExt a b) :
    b.map (fun l => (l.epoch, l.token, l.isSampled, l.queue.nextParent))
      = a.map (fun l => (l.epoch, l.token, l.isSampled, l.queue.nextParent)) := by
  induction a generalizing b with
  | nil => rw [h.nil_left]
  | cons x xs ih =>
    obtain ⟨y, ys, rfl, ⟨hep, htok, hsam, hpar, -⟩, hs⟩ := h.cons_left
    rw [List.map_cons, List.map_cons, ih hs, hep, htok, hsam, hpar]

theorem Pres.frame {th th' : Th} (h : Pres th th') : th'.stack.frame = th.stack.frame := h.2.1.frame

theorem SpanLine.addEvent_ext (l : SpanLine) (c : Ctr) (n : String) (p : Option Props) :
    LineExt l (l.addEvent c n p).1 := by
  unfold SpanLine.addEvent
  split
  · exact .refl l
  · simp only [SpanQueue.addEvent]
    split
    · exact .refl l
    · exact .ofQueue rfl rfl (.append _ _)

theorem SpanLine.addProps_ext (l : SpanLine) (c : Ctr) (kvs : Props) : LineExt l (l.addProps c kvs).1 := by
  unfold SpanLine.addProps
  split
  · exact .refl l
  · simp only [SpanQueue.addProps]
    split
    · exact .refl l
    · exact .ofQueue rfl rfl (.append _ _)

theorem SpanLine.withProps_ext (l : SpanLine) (h : LocalHandle) (kvs : Props) : LineExt l (l.withProps h kvs) := by
  unfold SpanLine.withProps SpanQueue.withProps
  split
  · exact .refl l
  · split
    · split
      · exact .refl l
      · next s hs => exact .ofQueue rfl rfl (.set hs rfl rfl)
    · exact .refl l

/-- a span started on `l` is, on any later state `l2` of the line, still at its index and the
    innermost open span of `l2` (what `LocalSpan::drop` asserts); `l2` is otherwise a later `l` -/
theorem SpanLine.started_persists {l l1 l2 : SpanLine} {c c1 : Ctr} {n : String} {h : LocalHandle}
    (hs : l.startSpan c n = some (l1, h, c1)) (he : LineExt l1 l2) :
    l2.epoch = h.epoch ∧ l2.epoch = l.epoch ∧ l2.token = l.token ∧ l2.isSampled = l.isSampled ∧
    l2.queue.cap = l.queue.cap ∧ Keeps l.queue.spans l2.queue.spans ∧
    ∃ sp : RawSpan, l2.queue.spans[h.index]? = some sp ∧ l2.queue.nextParent = some sp.id ∧
      sp.id = c.nextId.1 ∧ sp.parentId = l.queue.nextParent.getD 0 := by
  obtain ⟨idx, ep⟩ := h
  obtain ⟨_, q, hq, rfl, hep⟩ := SpanLine.startSpan_eq_some hs
  cases (SpanQueue.startSpan_eq_some.mp hq).2
  obtain ⟨f1, f2, f3, f4, f5, f6⟩ := he
  obtain ⟨sp, hsp, hid, hpar⟩ := f6 _ (l.queue.started c n) (List.getElem?_concat_length ..)
  exact ⟨f1.trans hep.symm, f1, f2, f3, f5, (Keeps.append _ _).trans f6, sp, hsp,
    f4.trans (congrArg some hid.symm), hid, hpar⟩

/-- closing a local span on a line that is an extension of the line it was opened on (by
    `startSpan`) gives an extension of the *original* line: the innermost open span is the
    one it was before the span was entered -/
theorem SpanLine.finish_after_ext {l l1 l2 : SpanLine} {c c1 : Ctr} {n : String} {h : LocalHandle}
    (hs : l.startSpan c n = some (l1, h, c1)) (hz : l.queue.nextParent ≠ some 0) (he : LineExt l1 l2) (c2 : Ctr) :
    LineExt l (l2.finishSpan c2 h).1 := by
  obtain ⟨hep, e1, e2, e3, e4, hk, sp, hsp, _, _, hpar⟩ := SpanLine.started_persists hs he
  rw [SpanLine.finishSpan, if_pos hep, SpanQueue.finishSpan_of_get hsp]
  exact ⟨e1, e2, e3, hpar ▸ restore_parent hz, e4, hk.trans (.set hsp rfl rfl)⟩

/-- what a guard holds on the span stack: nothing (a no-op guard), the line a scope or a collector registered, or
    the local span entered on the current line -/
inductive Held where
  | nothing
  | line (epoch : Nat)
  | span (h : LocalHandle)

def Guard.held : Guard → Held
  | .scope (some e) | .collector (some e) => .line e
  | .localSpan (some h) => .span h
  | _ => .nothing

/-- what dropping guard `g` does to the span stack -/
def Guard.closeStack (g : Guard) (st : Stack) (c : Ctr) : Stack :=
  match g.held with
  | .nothing => st
  | .line e => (st.unregisterAndCollect e).1
  | .span h => (st.exitSpan c h).1

/-- `st1` is `st` after guard `g` has been set up -/
def Guard.Opens (g : Guard) (c : Ctr) (st st1 : Stack) : Prop :=
  match g.held with
  | .nothing => st1 = st
  | .line e => ∃ tok, st.registerLine tok = some (st1, e)
  | .span h => ∃ n c1, st.enterSpan c n = some (st1, h, c1)

theorem Guard.Opens.good {g : Guard} {c : Ctr} {st st1 : Stack} (ho : g.Opens c st st1) (hp : 1 ≤ c.pref)
    (hz : GoodLines st.lines) : GoodLines st1.lines := by
  unfold Guard.Opens at ho
  split at ho
  · exact ho ▸ hz
  · obtain ⟨tok, hr⟩ := ho
    rw [(Stack.registerLine_eq_some.mp hr).2.2]
    exact hz.cons nofun
  · obtain ⟨n, c1, hs⟩ := ho
    obtain ⟨l, ls, l1, hl, hl1, rfl⟩ := Stack.enterSpan_eq_some hs
    obtain ⟨_, q, hq, rfl, _⟩ := SpanLine.startSpan_eq_some hl1
    obtain ⟨rfl, -⟩ := Prod.mk.inj (SpanQueue.startSpan_eq_some.mp hq).2
    exact GoodLines.cons (fun e => nextId_ne_zero c hp (Option.some.inj e))
      fun x hx => hz x (hl ▸ List.mem_cons_of_mem _ hx)

/-- **the bracket**: set up `g`, run anything that preserves the frame, drop `g` -/
theorem Guard.Opens.closed {g : Guard} {c c2 : Ctr} {st st1 st2 : Stack} (ho : g.Opens c st st1)
    (hz : GoodLines st.lines) (hl2 : LinesExt st1.lines st2.lines) (hcap2 : st2.cap = st1.cap) :
    LinesExt st.lines (g.closeStack st2 c2).lines ∧ (g.closeStack st2 c2).cap = st.cap := by
  unfold Guard.Opens at ho
  unfold Guard.closeStack
  split at ho
  · exact ho ▸ ⟨hl2, hcap2⟩
  · -- a registered line is still on top after the body, and is popped
    obtain ⟨tok, hr⟩ := ho
    rw [(Stack.registerLine_eq_some.mp hr).2.2] at hl2 hcap2
    obtain ⟨l2, ls2, hl2e, _, hls⟩ := hl2.cons_left
    rw [Stack.unregisterAndCollect_fst, hl2e]
    exact ⟨hls, hcap2⟩
  · -- the span entered on the current line is finished on the (grown) current line
    obtain ⟨n, c1, hs⟩ := ho
    obtain ⟨l, ls, l1, hl, hl1, h1⟩ := Stack.enterSpan_eq_some hs
    rw [h1] at hl2 hcap2
    obtain ⟨l2, ls2, hl2e, hle, hls⟩ := hl2.cons_left
    rw [Stack.exitSpan_fst, hl2e, hl]
    exact ⟨⟨SpanLine.finish_after_ext hl1 (hz l (hl ▸ List.mem_cons_self ..)) hle c2, hls⟩, hcap2⟩

end Fastrace
