import FastraceModel.Lemmas.Ops
import FastraceModel.Lemmas.SecondPass

/-!
Operations of one thread never touch another thread's state (`Moves.th_other`, `exec_th_other`), nor do the collector's
(`Sys.cycStep_th`, `Sys.cycle_th`).  At the end, what the channel leaves alone of the sending thread itself — its
recording state `Th.loc` and the adapter table — as equations, the projections of `Untouched`.
-/
namespace Fastrace

theorem Sys.setRing_th (s : Sys) (t : Nat) (r : Ring Cmd) (t2 : Nat) : (s.setRing t r).th t2 = s.th t2 := by
  rw [Sys.setRing_frame]; rfl

theorem Sys.register_th_other (s s' : Sys) (t t2 : Nat) (h : s.register t = some s') (hne : t2 ≠ t) :
    s'.th t2 = s.th t2 := by
  rcases Sys.register_cases h with rfl | ⟨_, e, _⟩
  · rfl
  · rw [e]; exact Sys.th_setTh_other _ _ _ _ hne

theorem Sys.register_th {s s' : Sys} {t : Nat} (h : s.register t = some s') (t2 : Nat) :
    ∃ r, s'.th t2 = { s.th t2 with registered := r } := by
  rcases Sys.register_cases h with rfl | ⟨_, e, _⟩
  · exact ⟨_, rfl⟩
  · rw [e]
    exact Sys.th_setTh_ind (P := fun t2 th' => ∃ r, th' = { s.th t2 with registered := r }) ⟨true, rfl⟩ (fun _ => ⟨_, rfl⟩) t2

theorem Sys.sendCmd_th_other (s : Sys) (t t2 : Nat) (cmd : Cmd) (f : Bool) (hne : t2 ≠ t) :
    (s.sendCmd t cmd f).th t2 = s.th t2 := by
  have h1 : ∀ {s1}, s1 = s ∨ s.register t = some s1 → s1.th t2 = s.th t2 :=
    fun hs1 => hs1.elim (fun e => e ▸ rfl) fun hr => Sys.register_th_other s _ t t2 hr hne
  refine Sys.sendCmd_ind (P := fun x => x.th t2 = s.th t2) s t cmd f (fun s1 g hs1 => h1 (s1 := s1) hs1) fun s1 r r' p g hs1 _ _ => ?_
  rw [Sys.withG_th, Sys.th_setTh_other _ _ _ _ hne, Sys.setRing_th, h1 hs1]

theorem Moves.th_other {C : Cmd → Prop} {t : Nat} {s s' : Sys} (h : Moves C t s s') {t2 : Nat} (hne : t2 ≠ t) : s'.th t2 = s.th t2 := by
  induction h with
  | refl => rfl
  | trans _ _ ih1 ih2 => rw [ih2, ih1]
  | setTh s th' => exact Sys.th_setTh_other _ _ _ _ hne
  | fields _ _ h3 => exact Sys.th_congr h3 t2
  | send s cmd f => exact Sys.sendCmd_th_other _ _ _ _ _ hne
  | register hr => exact Sys.register_th_other _ _ _ _ hr hne
  | senderExit s => obtain ⟨_, _, _, e⟩ := s.senderExit_frame t; rw [e]; exact Sys.th_setTh_other _ _ _ _ hne

theorem Sys.finishCycle_th (s : Sys) (kept : List (Nat × Ring Cmd)) (buf buf2 : List Cmd) (t2 : Nat) :
    (s.finishCycle kept buf buf2).1.th t2 = s.th t2 := rfl

theorem Sys.noteParked_threads (s : Sys) (t cid : Nat) : (s.noteParked t cid).threads = s.threads :=
  iteInduction (motive := fun x : Sys => x.threads = s.threads) (fun _ => rfl) fun _ => rfl

theorem Sys.noteParked_th (s : Sys) (t cid t2 : Nat) : (s.noteParked t cid).th t2 = s.th t2 :=
  Sys.th_congr (s.noteParked_threads t cid) t2

theorem Sys.finishCycleP_fields (s : Sys) (kept : List (Nat × Ring Cmd)) (buf buf2 : List Cmd) :
    (s.finishCycleP kept buf buf2).1.cyc = none ∧ (s.finishCycleP kept buf buf2).1.rxs = kept ∧
    (∀ t, (s.finishCycleP kept buf buf2).1.th t = s.th t) ∧
    (s.finishCycleP kept buf buf2).1.g.acceptedBy = s.g.acceptedBy ∧
    (s.finishCycleP kept buf buf2).1.g.drainedBy = s.g.drainedBy := by
  obtain ⟨f1, f2, f3, -, -, -, f7, f8⟩ := s.finishCycle_same kept buf (buf2 ++ (s.parkedFor buf).1.map Cmd.drop)
  rw [Sys.finishCycleP_eq]
  exact ⟨f1, f2, Sys.th_congr f3, f7, f8⟩

theorem Sys.finishCycleP_th (s : Sys) (kept : List (Nat × Ring Cmd)) (buf buf2 : List Cmd) (t2 : Nat) :
    (s.finishCycleP kept buf buf2).1.th t2 = s.th t2 :=
  (s.finishCycleP_fields kept buf buf2).2.2.1 t2

theorem Sys.cycStep_th (s : Sys) (t2 : Nat) : s.cycStep.1.th t2 = s.th t2 := by
  rcases s.cycStep_cases with ⟨cs, _, e⟩ | ⟨_, _, _, e, _⟩ <;> rw [e]
  · exact Sys.finishCycleP_th _ _ _ _ t2
  · rfl

theorem Sys.cycle_th (s : Sys) (t2 : Nat) : s.cycle.1.th t2 = s.th t2 :=
  Sys.finishCycleP_th _ _ _ _ t2

theorem Sys.cycBegin_th (s : Sys) (t2 : Nat) : s.cycBegin.1.th t2 = s.th t2 := by
  rcases s.cycBegin_cases with ⟨w, e⟩ | ⟨ph, p, -, -, e⟩ <;> rw [e] <;> rfl

theorem th_withLspans (s : Sys) (x : List (String × LocalSpansVal)) (t2 : Nat) :
    ({ s with lspans := x } : Sys).th t2 = s.th t2 := rfl
theorem th_withNextCollect (s : Sys) (x : Nat) (t2 : Nat) :
    ({ s with nextCollect := x } : Sys).th t2 = s.th t2 := rfl
theorem th_withAdapters (s : Sys) (x : List (String × Adapter)) (t2 : Nat) :
    ({ s with adapters := x } : Sys).th t2 = s.th t2 := rfl
theorem th_withSpansAdapters (s : Sys) (x : List (String × SpanVal)) (y : List (String × Adapter)) (t2 : Nat) :
    ({ s with spans := x, adapters := y } : Sys).th t2 = s.th t2 := rfl

theorem exec_collectorOp_th (s : Sys) (t t2 : Nat) {op : Op} (hc : op.isCollectorOp = true) :
    (exec s t op).1.th t2 = s.th t2 :=
  exec_ind (P := fun r => r.1.th t2 = s.th t2) s t op (fun h => nomatch hc.symm.trans h) (fun _ _ => rfl) (fun _ => rfl)
    (fun _ => Sys.cycle_th s t2) (fun _ => Sys.cycBegin_th s t2) (Sys.cycStep_th s t2)

theorem exec_th_other (s : Sys) (t t2 : Nat) (op : Op) (hne : t2 ≠ t) : (exec s t op).1.th t2 = s.th t2 := by
  cases hc : op.isCollectorOp with
  | false => exact (exec_moves s t op hc).th_other hne
  | true => exact exec_collectorOp_th s t t2 hc

theorem Sys.submitSpans_loc (s : Sys) (t t2 : Nat) (sp : SpanSet) (tok : Token) :
    ((s.submitSpans t sp tok).th t2).loc = (s.th t2).loc :=
  (s.submitSpans_untouched t sp tok).loc t2

theorem Sys.putCtr_loc (s : Sys) (t t2 : Nat) (c : Ctr) : ((s.putCtr t c).th t2).loc = (s.th t2).loc :=
  (s.putCtr_untouched t c).loc t2

theorem Sys.dropSpanVal_loc (s : Sys) (t t2 : Nat) (sv : SpanVal) : ((s.dropSpanVal t sv).th t2).loc = (s.th t2).loc :=
  (s.dropSpanVal_untouched t sv).loc t2

theorem Sys.dropSpanVal_adapters (s : Sys) (t : Nat) (sv : SpanVal) : (s.dropSpanVal t sv).adapters = s.adapters :=
  (s.dropSpanVal_untouched t sv).adapters

end Fastrace
