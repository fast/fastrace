/-!
Association lists as the model uses them for the collector's `HashMap`s: lookup is the first
entry under the key, removal filters the key out, insertion removes and appends.  The facts
are proved once for any key type; `Coll.find?` and `Danglings.find?` are `alGet` by unfolding.
-/
namespace Fastrace

theorem find?_filter_of_imp {α : Type} {p q : α → Bool} (h : ∀ x, q x = true → p x = true) (l : List α) :
    (l.filter p).find? q = l.find? q :=
  List.find?_filter.trans <| congrArg (List.find? · l) <| funext fun x => by
    cases hq : q x
    · exact decide_eq_false fun h' => Bool.false_ne_true h'.2
    · exact decide_eq_true ⟨h x hq, rfl⟩

theorem find?_filter_of_not {α : Type} {p q : α → Bool} (h : ∀ x, q x = true → p x = false) (l : List α) :
    (l.filter p).find? q = none :=
  List.find?_eq_none.mpr fun x hx hq => Bool.false_ne_true ((h x hq).symm.trans (List.mem_filter.mp hx).2)

variable {κ β : Type} [BEq κ]

def alGet (l : List (κ × β)) (k : κ) : Option β := (l.find? (fun e => e.1 == k)).map (·.2)

theorem alGet_cons [LawfulBEq κ] [DecidableEq κ] (k' k : κ) (v : β) (l : List (κ × β)) :
    alGet ((k', v) :: l) k = if k' = k then some v else alGet l k := by
  unfold alGet
  by_cases h : k' = k
  · rw [if_pos h, List.find?_cons_of_pos (a := (k', v)) (p := fun e => e.1 == k) (beq_iff_eq.mpr h)]; rfl
  · rw [if_neg h, List.find?_cons_of_neg (a := (k', v)) (p := fun e => e.1 == k) (fun e => h (beq_iff_eq.mp e))]

theorem alGet_append (l₁ l₂ : List (κ × β)) (k : κ) : alGet (l₁ ++ l₂) k = (alGet l₁ k).or (alGet l₂ k) := by
  unfold alGet; rw [List.find?_append, Option.map_or]

variable [LawfulBEq κ]

theorem alGet_mem {l : List (κ × β)} {k : κ} {v : β} (h : alGet l k = some v) : (k, v) ∈ l := by
  obtain ⟨e, he, rfl⟩ := Option.map_eq_some_iff.mp h
  have hk : e.1 = k := beq_iff_eq.mp (List.find?_some (p := fun e : κ × β => e.1 == k) he)
  exact hk ▸ List.mem_of_find?_eq_some he

theorem alGet_isSome (l : List (κ × β)) (k : κ) : (alGet l k).isSome ↔ k ∈ l.map (·.1) := by
  simp only [alGet, Option.isSome_map, List.find?_isSome, List.mem_map, beq_iff_eq]

theorem filter_ne_of_alGet_none (l : List (κ × β)) (k : κ) (h : alGet l k = none) :
    l.filter (fun e => e.1 != k) = l :=
  List.filter_eq_self.mpr fun e he => bne_iff_ne.mpr fun hk =>
    List.find?_eq_none.mp (Option.map_eq_none_iff.mp h) e he (beq_iff_eq.mpr hk)

variable [DecidableEq κ]

/-- `HashMap::remove` -/
theorem alGet_filter_ne (l : List (κ × β)) (k k' : κ) :
    alGet (l.filter (fun e => e.1 != k')) k = if k = k' then none else alGet l k :=
  if h : k = k' then by
    rw [if_pos h]
    exact congrArg _ (find?_filter_of_not (fun e he => bne_eq_false_iff_eq.mpr ((beq_iff_eq.mp he).trans h)) l)
  else by
    rw [if_neg h]
    exact congrArg _ (find?_filter_of_imp (fun e he => bne_iff_ne.mpr (beq_iff_eq.mp he ▸ h)) l)

theorem alGet_single (k k' : κ) (v : β) : alGet [(k', v)] k = if k = k' then some v else none := by
  unfold alGet; rw [List.find?_singleton, Option.map_if]
  exact ite_congr (propext (beq_iff_eq.trans eq_comm)) (fun _ => rfl) (fun _ => rfl)

/-- `HashMap::insert` -/
theorem alGet_set (l : List (κ × β)) (k k' : κ) (v : β) :
    alGet (l.filter (fun e => e.1 != k') ++ [(k', v)]) k = if k = k' then some v else alGet l k := by
  rw [alGet_append, alGet_filter_ne, alGet_single]
  by_cases h : k = k'
  · rw [if_pos h, if_pos h, if_pos h]; rfl
  · rw [if_neg h, if_neg h, if_neg h]; exact Option.or_none

theorem perm_cons_filter_ne {l : List (κ × β)} {k : κ} {v : β}
    (hn : (l.map (·.1)).Nodup) (h : alGet l k = some v) : l.Perm ((k, v) :: l.filter (·.1 != k)) := by
  induction l with
  | nil => cases h
  | cons e es ih =>
    obtain ⟨k', v'⟩ := e
    obtain ⟨hnot, hn⟩ := List.nodup_cons.mp hn
    rw [alGet_cons] at h
    by_cases hk : k' = k
    · subst hk
      rw [if_pos rfl] at h
      cases h
      rw [List.filter_cons_of_neg (p := fun x : κ × β => x.1 != k') fun e => bne_iff_ne.mp e rfl,
        filter_ne_of_alGet_none es k' (Option.not_isSome_iff_eq_none.mp (mt (alGet_isSome es k').mp hnot))]
    · rw [if_neg hk] at h
      rw [List.filter_cons_of_pos (p := fun x : κ × β => x.1 != k) (bne_iff_ne.mpr hk)]
      exact ((ih hn h).cons _).trans (.swap ..)

end Fastrace
