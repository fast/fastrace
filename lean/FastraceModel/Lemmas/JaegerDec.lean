import FastraceModel.Lemmas.ThriftDec
import FastraceModel.Model.Report.Jaeger

/-! decoding a Jaeger `emitBatch` datagram back into what it says about every record -/
namespace Fastrace.Jaeger
open Fastrace.Thrift

/-! ### fuel: the size of a value is bounded by three times its encoded length -/

theorem varint_length_pos (n : Nat) : 0 < (varint n).length := by
  rw [varint]; split <;> exact Nat.succ_pos _

/-- list and field headers, one byte or one byte and a varint, put at least one byte in front
    of `t` -/
theorem header_length (c : Prop) [Decidable c] (a b : Nat) (l t : List Nat) :
    t.length + 1 ≤ ((if c then [a] else [b] ++ l) ++ t).length := by
  rw [List.length_append, Nat.add_comm]
  exact Nat.add_le_add_right (by split <;> exact Nat.succ_pos _) _

mutual
theorem size_le_data : ∀ d : TData, d.size + 1 ≤ 3 * (encData d).length
  | .i32 b => Nat.le_of_succ_le (Nat.mul_le_mul_left 3 (varint_length_pos _))
  | .i64 b => Nat.le_of_succ_le (Nat.mul_le_mul_left 3 (varint_length_pos _))
  | .binary bs => by
    rw [encData, List.length_append]
    exact Nat.le_of_succ_le (Nat.mul_le_mul_left 3 (Nat.lt_of_lt_of_le (varint_length_pos _) (Nat.le_add_right _ _)))
  | .struct fs => size_le_fields fs 0
  | .list es =>
    Nat.le_trans (Nat.add_le_add_right (size_le_list es) 2) (Nat.mul_le_mul_left 3 (header_length _ _ _ _ _))
theorem size_le_fields : ∀ (fs : TFields) (p : Nat), fs.size + 2 ≤ 3 * (encFields p fs).length
  | .nil, _ => Nat.le_refl 3
  | .cons id d rest, p => by
    rw [encFields, List.length_append, TFields.size, Nat.add_assoc, Nat.add_add_add_comm, Nat.mul_add]
    exact Nat.add_le_add (Nat.le_trans (size_le_data d)
      (Nat.mul_le_mul_left 3 (Nat.le_of_succ_le (header_length _ _ _ _ _)))) (size_le_fields rest id)
theorem size_le_list : ∀ es : TList, es.size ≤ 3 * (encList es).length + 1
  | .nil => Nat.le_refl 1
  | .cons d rest => by
    rw [encList, List.length_append, TList.size, Nat.add_right_comm, Nat.mul_add, Nat.add_assoc (3 * _)]
    exact Nat.add_le_add (size_le_data d) (size_le_list rest)
end

/-! ### the view: what a datagram says about a record -/

abbrev Bytes := List Nat

/-- a record as Jaeger can represent it: 64-bit halves of the trace id, ids as bit patterns,
    times in microseconds, properties as string tags, events as logs whose first field is
    `name` -/
structure JView where
  traceLow : Nat
  traceHigh : Nat
  spanId : Nat
  parentId : Nat
  name : Bytes
  flags : Nat
  startUs : Nat
  durUs : Nat
  tags : List (Bytes × Bytes)
  logs : List (Nat × List (Bytes × Bytes))
deriving DecidableEq, Repr

def tagView (k v : String) : Bytes × Bytes := (strBytes k, strBytes v)

def jaegerView (r : Record) : JView :=
  { traceLow := r.traceId % 2 ^ 64, traceHigh := r.traceId / 2 ^ 64 % 2 ^ 64, spanId := r.spanId,
    parentId := r.parentId, name := strBytes r.name, flags := 1, startUs := r.beginNs / 1000,
    durUs := r.durationNs / 1000, tags := r.props.map fun kv => tagView kv.1 kv.2,
    logs := r.events.map fun e => (e.timestamp / 1000, tagView "name" e.name :: e.props.map fun kv => tagView kv.1 kv.2) }

def viewTag : TData → Option (Bytes × Bytes)
  | .struct (.cons 1 (.binary k) (.cons 2 (.i32 0) (.cons 3 (.binary v) .nil))) => some (k, v)
  | _ => none

def viewTags : TList → Option (List (Bytes × Bytes))
  | .nil => some []
  | .cons d rest =>
    match viewTag d, viewTags rest with
    | some t, some ts => some (t :: ts)
    | _, _ => none

def viewLog : TData → Option (Nat × List (Bytes × Bytes))
  | .struct (.cons 1 (.i64 ts) (.cons 2 (.list fields) .nil)) => (viewTags fields).map fun f => (ts, f)
  | _ => none

def viewLogs : TList → Option (List (Nat × List (Bytes × Bytes)))
  | .nil => some []
  | .cons d rest =>
    match viewLog d, viewLogs rest with
    | some t, some ts => some (t :: ts)
    | _, _ => none

/-- fields 10 (tags) and 11 (logs) are optional -/
def viewTail : TFields → Option (List (Bytes × Bytes) × List (Nat × List (Bytes × Bytes)))
  | .nil => some ([], [])
  | .cons 11 (.list ls) .nil => (viewLogs ls).map fun l => ([], l)
  | .cons 10 (.list ts) .nil => (viewTags ts).map fun t => (t, [])
  | .cons 10 (.list ts) (.cons 11 (.list ls) .nil) =>
    match viewTags ts, viewLogs ls with
    | some t, some l => some (t, l)
    | _, _ => none
  | _ => none

def viewSpan : TData → Option JView
  | .struct (.cons 1 (.i64 lo) (.cons 2 (.i64 hi) (.cons 3 (.i64 sid) (.cons 4 (.i64 pid)
      (.cons 5 (.binary nm) (.cons 7 (.i32 fl) (.cons 8 (.i64 st) (.cons 9 (.i64 du) tail)))))))) =>
    (viewTail tail).map fun tl => ⟨lo, hi, sid, pid, nm, fl, st, du, tl.1, tl.2⟩
  | _ => none

def viewSpans : TList → Option (List JView)
  | .nil => some []
  | .cons d rest =>
    match viewSpan d, viewSpans rest with
    | some t, some ts => some (t :: ts)
    | _, _ => none

theorem viewTag_tagStruct (k v : String) : viewTag (tagStruct k v) = some (tagView k v) := rfl

theorem viewTags_ofList (ps : Props) :
    viewTags (TList.ofList (ps.map fun kv => tagStruct kv.1 kv.2)) = some (ps.map fun kv => tagView kv.1 kv.2) := by
  induction ps with
  | nil => rfl
  | cons p ps ih => simp only [List.map_cons, TList.ofList, viewTags, ih, viewTag_tagStruct]

theorem viewLog_logStruct (e : EventRecord) :
    viewLog (logStruct e) = some (e.timestamp / 1000, tagView "name" e.name :: e.props.map fun kv => tagView kv.1 kv.2) := by
  have := viewTags_ofList e.props
  simp only [logStruct, viewLog, TList.ofList, viewTags, this, viewTag_tagStruct, Option.map_some]

theorem viewLogs_ofList (es : List EventRecord) :
    viewLogs (TList.ofList (es.map logStruct))
      = some (es.map fun e => (e.timestamp / 1000, tagView "name" e.name :: e.props.map fun kv => tagView kv.1 kv.2)) := by
  induction es with
  | nil => rfl
  | cons e es ih => simp [TList.ofList, viewLogs, ih, viewLog_logStruct]

/-- the optional fields, whichever of them are present: a field is left out exactly when the list
    it carries is empty -/
theorem viewTail_optional {α β : Type} (ps : List α) (es : List β) {f : α → Bytes × Bytes}
    {g : β → Nat × List (Bytes × Bytes)} {ts ls : TList}
    (ht : viewTags ts = some (ps.map f)) (hl : viewLogs ls = some (es.map g)) :
    viewTail (if ps.isEmpty then (if es.isEmpty then .nil else .cons 11 (.list ls) .nil)
      else .cons 10 (.list ts) (if es.isEmpty then .nil else .cons 11 (.list ls) .nil))
      = some (ps.map f, es.map g) := by
  cases ps <;> cases es
  · rfl
  · exact congrArg (Option.map _) hl
  · exact congrArg (Option.map _) ht
  · simp only [List.isEmpty_cons, Bool.false_eq_true, if_false, viewTail, ht, hl]

theorem viewSpan_spanStruct (r : Record) : viewSpan (spanStruct r) = some (jaegerView r) := by
  show (viewTail _).map _ = _
  rw [viewTail_optional r.props r.events (viewTags_ofList _) (viewLogs_ofList _)]
  rfl

theorem viewSpans_ofList (rs : List Record) :
    viewSpans (TList.ofList (rs.map spanStruct)) = some (rs.map jaegerView) := by
  induction rs with
  | nil => rfl
  | cons r rs ih => simp [TList.ofList, viewSpans, ih, viewSpan_spanStruct]

theorem tagStruct_wf (k v : String) : (tagStruct k v).WF := by
  simp [tagStruct, TData.WF, TFields.WF]

theorem ofList_wf {α : Type} (enc : α → TData) (l : List α)
    (h : ∀ x ∈ l, (∃ fs, enc x = .struct fs) ∧ (enc x).WF) : (TList.ofList (l.map enc)).WF := by
  induction l with
  | nil => trivial
  | cons x l ih =>
    obtain ⟨hx, hl⟩ := List.forall_mem_cons.mp h
    exact ⟨hx.1, hx.2, ih hl⟩

theorem tags_wf (ps : Props) : (TList.ofList (ps.map fun kv => tagStruct kv.1 kv.2)).WF :=
  ofList_wf _ ps fun _ _ => ⟨⟨_, rfl⟩, tagStruct_wf _ _⟩

theorem logStruct_wf (e : EventRecord) (h : e.timestamp < 2 ^ 64) : (logStruct e).WF := by
  simp only [logStruct, TData.WF, TFields.WF, TList.ofList, TList.WF, Nat.reduceLT, Nat.reducePow, true_and,
    and_true]
  exact ⟨Nat.lt_of_le_of_lt (Nat.div_le_self _ _) h, ⟨_, rfl⟩, tagStruct_wf _ _, tags_wf e.props⟩

theorem logs_wf (es : List EventRecord) (h : ∀ e ∈ es, e.timestamp < 2 ^ 64) : (TList.ofList (es.map logStruct)).WF :=
  ofList_wf _ es fun e he => ⟨⟨_, rfl⟩, logStruct_wf e (h e he)⟩

theorem optional_wf {b1 b2 : Bool} {ts ls : TList} (ht : ts.WF) (hl : ls.WF) :
    TFields.WF (if b1 then (if b2 then .nil else .cons 11 (.list ls) .nil)
      else .cons 10 (.list ts) (if b2 then .nil else .cons 11 (.list ls) .nil)) := by
  cases b1 <;> cases b2 <;> simp [TFields.WF, TData.WF, ht, hl]

theorem spanStruct_wf (r : Record) (h : r.WF) : (spanStruct r).WF := by
  obtain ⟨_, hs, hp, hb, hd, he⟩ := h
  unfold spanStruct
  simp only [TData.WF, TFields.WF, Nat.reduceLT, Nat.reducePow, true_and]
  exact ⟨Nat.mod_lt _ (by decide), Nat.mod_lt _ (by decide), hs, hp, Nat.lt_of_le_of_lt (Nat.div_le_self _ _) hb,
    Nat.lt_of_le_of_lt (Nat.div_le_self _ _) hd, optional_wf (tags_wf r.props) (logs_wf r.events he)⟩

theorem spans_wf (rs : List Record) (h : ∀ r ∈ rs, r.WF) : (TList.ofList (rs.map spanStruct)).WF :=
  ofList_wf _ rs fun r hr => ⟨⟨_, rfl⟩, spanStruct_wf r (h r hr)⟩

/-- decode a whole `emitBatch` one-way message: header, method name, then the argument struct
    `{1: Batch{1: Process{1: service}, 2: [spans]}}`; succeeds only if nothing is left over -/
def decodeBatch (bytes : Bytes) : Option (Bytes × List JView) :=
  match bytes with
  | 0x82 :: 0x81 :: rest =>
    match decVarint rest with
    | some (0, r1) =>
      match decData 1 8 r1 with
      | some (.binary name, r2) =>
        if name ≠ strBytes "emitBatch" then none else
        match decFields (3 * r2.length + 3) 0 r2 with
        | some (.cons 1 (.struct (.cons 1 (.struct (.cons 1 (.binary svc) .nil)) (.cons 2 (.list spans) .nil))) .nil, []) =>
          (viewSpans spans).map fun v => (svc, v)
        | _ => none
      | _ => none
    | _ => none
  | _ => none

end Fastrace.Jaeger
