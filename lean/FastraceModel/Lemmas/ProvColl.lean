import FastraceModel.Lemmas.Sound

/-!
Provenance, collector side: whatever a collector cycle reports carries a trace id that was
already in the collector (a buffered collection) or arrives in this batch (a token item of a
`SubmitSpans` command).  Nothing invents a trace id.
-/
namespace Fastrace

def CollOk (T : List Nat) (c : Coll) : Prop := ∀ e ∈ c.active, ∀ col ∈ e.2.collections, col.traceId ∈ T

def CmdOk (T : List Nat) : Cmd → Prop
  | .submit _ tok => ∀ it ∈ tok, it.traceId ∈ T
  | _ => True

def RecsOk (T : List Nat) (rs : List Record) : Prop := ∀ r ∈ rs, r.traceId ∈ T

theorem collOk_iff_colsIn {T : List Nat} {c : Coll} : CollOk T c ↔ ColsIn (·.traceId ∈ T) c :=
  ⟨fun h col hc => (mem_allCols.mp hc).elim fun e he => h e he.1 col he.2,
   fun h e he col hc => h col (mem_allCols.mpr ⟨e, he, hc⟩)⟩

theorem CollOk.remove {T : List Nat} {c : Coll} (h : CollOk T c) (id : Nat) : CollOk T (c.remove id) :=
  collOk_iff_colsIn.mpr ((collOk_iff_colsIn.mp h).remove id)

theorem recsOk_of_recsFrom {T : List Nat} {conv : Nat → Nat} {rs : List Record}
    (h : RecsFrom conv (·.traceId ∈ T) rs) : RecsOk T rs := by
  intro r hr
  obtain ⟨col, hP, hk⟩ := h r.core (List.mem_map_of_mem hr)
  have e : r.traceId = col.traceId := collectionCores_trace conv col _ hk
  exact e ▸ hP

theorem submitted_ok {T : List Nat} {batch : List Cmd} (hb : ∀ cmd ∈ batch, CmdOk T cmd) :
    ∀ col ∈ submitted (submitsOf batch), col.traceId ∈ T := by
  intro col hc
  obtain ⟨sub, hsub, hc⟩ := List.mem_flatMap.mp hc
  obtain ⟨it, hit, rfl⟩ := List.mem_map.mp hc
  obtain ⟨cmd, hcmd, hs⟩ := List.mem_filterMap.mp hsub
  cases cmd <;> cases hs
  exact hb _ hcmd it hit

/-- **a collector cycle reports only trace ids it was given**: the collections it held and the
    token items of this batch's `SubmitSpans` commands; and what it keeps is again of that kind -/
theorem cycleProcess_ok (T : List Nat) (conv : Nat → Nat) (c : Coll) (batch : List Cmd)
    (hc : CollOk T c) (hb : ∀ cmd ∈ batch, CmdOk T cmd) :
    CollOk T (cycleProcess conv c batch).1 ∧
    ∀ rs, (cycleProcess conv c batch).2 = some rs → RecsOk T rs :=
  (cycle_sound conv c batch (collOk_iff_colsIn.mp hc) (submitted_ok hb)).imp collOk_iff_colsIn.mpr
    fun b rs e => recsOk_of_recsFrom (b rs e)

theorem CollOk.mono {T T' : List Nat} {c : Coll} (h : CollOk T c) (hs : ∀ x ∈ T, x ∈ T') : CollOk T' c :=
  fun e he col hcol => hs _ (h e he col hcol)

theorem CmdOk.mono {T T' : List Nat} {c : Cmd} (h : CmdOk T c) (hs : ∀ x ∈ T, x ∈ T') : CmdOk T' c := by
  cases c with
  | submit s t => exact fun it hit => hs _ (h it hit)
  | start _ => trivial
  | drop _ => trivial
  | commit _ => trivial

end Fastrace
