import FastraceModel.Lemmas.Assoc
import FastraceModel.Lemmas.Cycle
import FastraceModel.Lemmas.SplitSecond

/-!
The second drain pass of a collector cycle (`handle_commands` after the D4 repair): every
retained receiver is drained once more.  Run to completion it collects exactly what the rings
held when it began, leaves them empty, and keeps their order.  Then the batch is put together
(`Sys.cycleBatch`) and the parked cancels are looked up (`Sys.finishCycleP`, D21 repair).
-/
namespace Fastrace

/-- the second pass over the receivers named in `todo2`, with nothing in between -/
def pass2 : List Nat → List (Nat × Ring Cmd) → List Cmd → List (Nat × Ring Cmd) × List Cmd
  | [], kept, buf2 => (kept, buf2)
  | t :: rest, kept, buf2 =>
    let r := (natGet kept t).getD (Ring.new Consts.ringCap)
    pass2 rest (if (natGet kept t).isSome then natSet kept t { r with q := [] } else kept) (buf2 ++ r.q)

def keysOf (l : List (Nat × Ring Cmd)) : List Nat := l.map (·.1)

theorem pass2_cons (t : Nat) (rest : List Nat) (kept : List (Nat × Ring Cmd)) (buf2 : List Cmd) :
    pass2 (t :: rest) kept buf2 = pass2 rest (pass2 [t] kept buf2).1 (pass2 [t] kept buf2).2 := rfl

theorem pass2_cons_notin (e : Nat × Ring Cmd) (todo : List Nat) (kept : List (Nat × Ring Cmd)) (buf2 : List Cmd)
    (h : e.1 ∉ todo) :
    pass2 todo (e :: kept) buf2 = (e :: (pass2 todo kept buf2).1, (pass2 todo kept buf2).2) := by
  obtain ⟨k, r⟩ := e
  induction todo generalizing kept buf2 with
  | nil => rfl
  | cons t rest ih =>
    have ht : k ≠ t := fun eq => h (eq ▸ List.mem_cons_self)
    rw [pass2, pass2, natGet_cons, if_neg ht,
      show ∀ v, natSet ((k, r) :: kept) t v = (k, r) :: natSet kept t v from fun _ => if_neg ht,
      ← apply_ite (List.cons (k, r))]
    exact ih _ _ fun m => h (List.mem_cons_of_mem _ m)

/-- **the second pass collects everything**: run over all retained receivers (distinct
    threads), it moves exactly the contents of their rings, in registry order and ring order,
    behind what it had collected before, and leaves every ring empty -/
theorem pass2_collects (kept : List (Nat × Ring Cmd)) (buf2 : List Cmd) (hn : (keysOf kept).Nodup) :
    pass2 (keysOf kept) kept buf2
      = (kept.map (fun e => (e.1, { e.2 with q := [] })), buf2 ++ kept.flatMap (·.2.q)) := by
  induction kept generalizing buf2 with
  | nil => exact congrArg _ (List.append_nil buf2).symm
  | cons e tl ih =>
    obtain ⟨t, r⟩ := e
    obtain ⟨hnot, hnd⟩ := List.nodup_cons.mp hn
    rw [keysOf, List.map_cons, pass2]
    rw [natGet_cons, if_pos rfl, show ∀ v, natSet ((t, r) :: tl) t v = (t, v) :: tl from fun _ => if_pos rfl]
    refine (pass2_cons_notin (t, { r with q := [] }) (keysOf tl) _ _ hnot).trans ?_
    rw [ih _ hnd, List.append_assoc]
    rfl

def stepN : Nat → Sys → Sys
  | 0, s => s
  | n + 1, s => stepN n s.cycStep.1

theorem cycStep_atRx2 (s : Sys) (cs : CycState) (t : Nat) (rest : List Nat)
    (hc : s.cyc = some cs) (hp : cs.phase = .atRx2) (ht : cs.todo2 = t :: rest) :
    ∃ cs', s.cycStep.1.cyc = some cs' ∧ (cs'.kept, cs'.buf2) = pass2 [t] cs.kept cs.buf2 ∧ cs'.todo2 = rest ∧
      cs'.buf = cs.buf ∧ cs'.phase = (if rest = [] then CycPhase.atReport else CycPhase.atRx2) := by
  unfold Sys.cycStep
  simp only [hc, hp, ht]
  cases rest with
  | nil => exact ⟨_, rfl, rfl, rfl, rfl, rfl⟩
  | cons t2 r2 => exact ⟨_, rfl, rfl, rfl, rfl, by simp⟩

/-- the whole second pass, step by step: after as many collector steps as there are receivers
    to revisit, the drain state holds `pass2` of the retained receivers and the cycle is about
    to process and report -/
theorem stepN_second_pass (todo2 : List Nat) (s : Sys) (cs : CycState) (hc : s.cyc = some cs)
    (hp : cs.phase = .atRx2) (ht : cs.todo2 = todo2) (hne : todo2 ≠ []) :
    ∃ cs', (stepN todo2.length s).cyc = some cs' ∧ cs'.phase = .atReport ∧ cs'.buf = cs.buf ∧
      (cs'.kept, cs'.buf2) = pass2 todo2 cs.kept cs.buf2 := by
  induction todo2 generalizing s cs with
  | nil => exact absurd rfl hne
  | cons t rest ih =>
    obtain ⟨cs1, h1, h2, h3, h4, h5⟩ := cycStep_atRx2 s cs t rest hc hp ht
    cases rest with
    | nil => exact ⟨cs1, h1, by simpa using h5, h4, h2⟩
    | cons t2 r2 =>
      have hp1 : cs1.phase = .atRx2 := by simpa using h5
      obtain ⟨cs', e1, e2, e3, e4⟩ := ih s.cycStep.1 cs1 h1 hp1 h3 (by simp)
      refine ⟨cs', e1, e2, e3.trans h4, ?_⟩
      rw [e4, pass2_cons t (t2 :: r2) cs.kept cs.buf2, ← h2]

theorem Coll.known_iff (c : Coll) (id : Nat) : c.known id = true ↔ id ∈ c.keys := Coll.find?_isSome_iff c id

/-- every start the drain found is handled in this cycle -/
theorem startsOf_cycleBatch (s : Sys) (buf b2 : List Cmd) :
    startsOf (s.cycleBatch buf b2) = startsOf (s.carried ++ buf ++ b2) := by
  have app (a b : List Cmd) : startsOf (a ++ b) = startsOf a ++ startsOf b := List.filterMap_append
  have : startsOf (s.deferred.map Cmd.commit) = [] := by
    unfold startsOf; rw [List.filterMap_map]; exact List.filterMap_eq_nil_iff.mpr fun _ _ => rfl
  unfold Sys.cycleBatch Sys.cycleSplit
  rw [splitSecond_eq, app, app, startsOf_splitSide, this, List.nil_append, ← app]

theorem mem_takeParked (c : List Nat) : ∀ (p : List Nat) (id : Nat),
    (id ∈ (takeParked c p).1 ↔ id ∈ c ∧ id ∈ p) ∧ (id ∈ (takeParked c p).2 ↔ id ∈ p ∧ id ∉ c) := by
  induction c with
  | nil => exact fun p id => ⟨⟨fun h => absurd h List.not_mem_nil, fun h => absurd h.1 List.not_mem_nil⟩,
      ⟨fun h => ⟨h, List.not_mem_nil⟩, And.left⟩⟩
  | cons x rest ih =>
    intro p id
    rw [takeParked]
    split
    · next hx =>
      have hx := List.contains_iff_mem.mp hx
      obtain ⟨i1, i2⟩ := ih (p.filter (· != x)) id
      simp only [List.mem_cons, i1, i2, List.mem_filter, bne_iff_ne, ne_eq]
      by_cases e : id = x
      · subst e; simp [hx]
      · simp [e]
    · next hx =>
      obtain ⟨i1, i2⟩ := ih p id
      have hne : id ∈ p → id ≠ x := fun h e => hx (List.contains_iff_mem.mpr (e ▸ h))
      simp only [List.mem_cons, i1, i2]
      constructor
      · exact ⟨fun h => ⟨.inr h.1, h.2⟩, fun h => ⟨h.1.resolve_left (hne h.2), h.2⟩⟩
      · exact ⟨fun h => ⟨h.1, fun o => o.elim (hne h.1) h.2⟩, fun h => ⟨h.1, fun m => h.2 (.inr m)⟩⟩

/-- processing without a reporter: the collector is untouched, everything drained is discarded -/
theorem Sys.finishCycle_off {s : Sys} (h : s.coll.hasReporter = false) (kept : List (Nat × Ring Cmd)) (buf buf2 : List Cmd) :
    s.finishCycle kept buf buf2 =
      ({ s with rxs := kept, cyc := none, deferred := [], carried := [],
                g := { s.g with discarded := s.cycleBatch buf buf2 ++ (s.cycleSplit buf buf2).2 ++ buf2.filter Cmd.isCommit
                                              ++ s.g.discarded } }, none) := by
  unfold Sys.finishCycle
  simp only [h, cycleProcess_off, Bool.false_eq_true, if_false, Sys.withG]

/-- processing with a reporter: one `cycleProcess` on the batch; the batch is consumed, the report logged,
    the second pass's commits deferred, what `splitSecond` holds back carried over -/
theorem Sys.finishCycle_on {s : Sys} (h : s.coll.hasReporter = true) (kept : List (Nat × Ring Cmd)) (buf buf2 : List Cmd) :
    s.finishCycle kept buf buf2 =
      ({ s with coll := (cycleProcess id s.coll (s.cycleBatch buf buf2)).1, rxs := kept, cyc := none,
                deferred := commitsOf buf2, carried := (s.cycleSplit buf buf2).2,
                g := { s.g with consumed := s.cycleBatch buf buf2 ++ s.g.consumed,
                                reported := (cycleProcess id s.coll (s.cycleBatch buf buf2)).2.getD [] ++ s.g.reported } },
       (cycleProcess id s.coll (s.cycleBatch buf buf2)).2) := by
  unfold Sys.finishCycle
  simp only [h, if_true, Sys.withG]

theorem Sys.finishCycle_same (s : Sys) (kept : List (Nat × Ring Cmd)) (buf buf2 : List Cmd) :
    (s.finishCycle kept buf buf2).1.cyc = none ∧ (s.finishCycle kept buf buf2).1.rxs = kept ∧
    (s.finishCycle kept buf buf2).1.threads = s.threads ∧
    (s.finishCycle kept buf buf2).1.g.accepted = s.g.accepted ∧ (s.finishCycle kept buf buf2).1.g.injected = s.g.injected ∧
    (s.finishCycle kept buf buf2).1.g.lostAtExit = s.g.lostAtExit ∧
    (s.finishCycle kept buf buf2).1.g.acceptedBy = s.g.acceptedBy ∧ (s.finishCycle kept buf buf2).1.g.drainedBy = s.g.drainedBy := by
  cases hr : s.coll.hasReporter with
  | false => rw [Sys.finishCycle_off hr]; exact ⟨rfl, rfl, rfl, rfl, rfl, rfl, rfl, rfl⟩
  | true => rw [Sys.finishCycle_on hr]; exact ⟨rfl, rfl, rfl, rfl, rfl, rfl, rfl, rfl⟩

/-- the notes the collector finds for the commits it is about to handle, and the notes it leaves (none are looked
    up without a reporter) -/
def Sys.parkedFor (s : Sys) (buf : List Cmd) : List Nat × List Nat :=
  if s.coll.hasReporter then takeParked (s.deferred ++ commitsOf buf) s.parkedCancels else ([], s.parkedCancels)

/-- **processing with the parked cancels is processing** of the second-pass buffer extended by the cancel commands the
    collector makes up; beyond that only the notes and the log of made-up cancels change -/
theorem Sys.finishCycleP_eq (s : Sys) (kept : List (Nat × Ring Cmd)) (buf buf2 : List Cmd) :
    s.finishCycleP kept buf buf2 =
      ({ (s.finishCycle kept buf (buf2 ++ (s.parkedFor buf).1.map Cmd.drop)).1 with
           parkedCancels := (s.parkedFor buf).2,
           g := { (s.finishCycle kept buf (buf2 ++ (s.parkedFor buf).1.map Cmd.drop)).1.g with
                    injected := (s.parkedFor buf).1 ++ (s.finishCycle kept buf (buf2 ++ (s.parkedFor buf).1.map Cmd.drop)).1.g.injected } },
       (s.finishCycle kept buf (buf2 ++ (s.parkedFor buf).1.map Cmd.drop)).2) := by
  unfold Sys.finishCycleP Sys.parkedFor
  by_cases hr : s.coll.hasReporter = true
  · rw [if_pos hr, if_pos hr]
    dsimp only
    -- generalised, so that `rfl` compares two records and does not unfold `cycleProcess`
    generalize s.finishCycle kept buf _ = r
    rfl
  · rewrite [if_neg hr, if_neg hr, List.map_nil, List.append_nil, Sys.finishCycle_off (Bool.eq_false_iff.mpr hr)]
    rfl

/-- with a reporter, `finishCycleP` is a collector cycle on the batch that includes the cancels
    the collector makes up for the parked ones; the notes found are consumed -/
theorem Sys.finishCycleP_on (s : Sys) (kept : List (Nat × Ring Cmd)) (buf buf2 : List Cmd)
    (hr : s.coll.hasReporter = true) :
    let tp := takeParked (s.deferred ++ commitsOf buf) s.parkedCancels
    let batch := s.cycleBatch buf (buf2 ++ tp.1.map Cmd.drop)
    (s.finishCycleP kept buf buf2).2 = (cycleProcess id s.coll batch).2 ∧
    (s.finishCycleP kept buf buf2).1.coll = (cycleProcess id s.coll batch).1 ∧
    (s.finishCycleP kept buf buf2).1.parkedCancels = tp.2 := by
  unfold Sys.finishCycleP
  rw [if_pos hr]
  exact ⟨rfl, rfl, rfl⟩

/-- `drop_collect` notes a trace exactly when its cancel signal had to be parked -/
theorem Sys.mem_noteParked (s : Sys) (t cid x : Nat) :
    x ∈ (s.noteParked t cid).parkedCancels ↔ x ∈ s.parkedCancels ∨ ((s.th t).pending ≠ [] ∧ x = cid) := by
  unfold Sys.noteParked
  split
  · next h => simp [List.isEmpty_iff.mp h]
  · next h =>
    have h : (s.th t).pending ≠ [] := fun e => h (List.isEmpty_iff.mpr e)
    split
    · next hc => exact ⟨.inl, fun o => o.elim id fun e => e.2 ▸ List.contains_iff_mem.mp hc⟩
    · simp [h, or_comm]

end Fastrace
