import FastraceModel.Lemmas.FrameOps

/-!
The bracket on a thread: whatever operation pushes a guard and whatever operation drops it,
open ; frame-preserving body ; close preserves the frame (`frame_bracket`).  The operations
that open (`scope`, `collectorStart`, `localEnter`, `adPoll`) and close (`close`, `collect`,
`adEnd`) are instances.
-/
namespace Fastrace

def runS (s : Sys) (p : Program) : Sys := (run s p).1
def runO (s : Sys) (p : Program) : List Obs := (run s p).2

@[simp] theorem runS_nil (s : Sys) : runS s [] = s := rfl
@[simp] theorem runO_nil (s : Sys) : runO s [] = [] := rfl
theorem runS_cons (s : Sys) (t : Nat) (op : Op) (p : Program) :
    runS s ((t, op) :: p) = runS (exec s t op).1 p := rfl
theorem runO_cons (s : Sys) (t : Nat) (op : Op) (p : Program) :
    runO s ((t, op) :: p) = (exec s t op).2 :: runO (exec s t op).1 p := rfl

theorem runS_append (s : Sys) (p q : Program) : runS s (p ++ q) = runS (runS s p) q := by
  induction p generalizing s with
  | nil => rfl
  | cons hd tl ih => obtain ⟨t, op⟩ := hd; simp only [List.cons_append, runS_cons, ih]

theorem runO_append (s : Sys) (p q : Program) : runO s (p ++ q) = runO s p ++ runO (runS s p) q := by
  induction p generalizing s with
  | nil => rfl
  | cons hd tl ih => obtain ⟨t, op⟩ := hd; simp only [List.cons_append, runO_cons, runS_cons, ih]

def Obs.isOk : Obs → Bool
  | .badOp _ => false
  | _ => true

/-- `th1` is `th` after guard `g` has been pushed -/
def Opened (c : Ctr) (th : Th) (g : Guard) (th1 : Th) : Prop :=
  th1.guards = g :: th.guards ∧ th1.pref = th.pref ∧ g.Opens c th.stack th1.stack

/-- `o` pushes a guard on thread `t` (when it succeeds) -/
def OpensGuard (t : Nat) (o : Op) : Prop := ∀ s : Sys, (exec s t o).2.isOk = true →
  ∃ g, Opened (s.ctr t) (s.th t) g ((exec s t o).1.th t)

/-- `o` drops the most recent guard `g` of thread `t` (when it succeeds) -/
def ClosesGuard (t : Nat) (o : Op) : Prop := ∀ (s : Sys) (g : Guard) (gs : List Guard), (s.th t).guards = g :: gs →
  (exec s t o).2.isOk = true → ∃ c2, ((exec s t o).1.th t).loc = (g.closeStack (s.th t).stack c2, gs, (s.th t).pref)

theorem frame_bracket {t : Nat} {o1 o2 : Op} (h1 : OpensGuard t o1) (h2 : ClosesGuard t o2) (body : Program) (s : Sys)
    (hbody : ∀ s1 : Sys, (runO s1 body).all Obs.isOk = true → Good (s1.th t) → Pres (s1.th t) ((runS s1 body).th t))
    (hobs : (runO s ((t, o1) :: (body ++ [(t, o2)]))).all Obs.isOk = true) (hg : Good (s.th t)) :
    Pres (s.th t) ((runS s ((t, o1) :: (body ++ [(t, o2)]))).th t) := by
  simp only [runO_cons, runO_append, runO_nil, List.all_cons, List.all_append, List.all_nil, Bool.and_eq_true,
    and_true] at hobs
  obtain ⟨ho1, hob, ho2⟩ := hobs
  simp only [runS_cons, runS_append, runS_nil]
  obtain ⟨g, hgs1, hpref1, hopen⟩ := h1 s ho1
  generalize (exec s t o1).1 = s1 at *
  obtain ⟨hgs2, hlines2, hcap2, hpref2⟩ := hbody s1 hob ⟨hpref1 ▸ hg.1, hopen.good hg.1 hg.2⟩
  generalize runS s1 body = s2 at *
  obtain ⟨c2, hloc⟩ := h2 s2 g _ (hgs2.trans hgs1) ho2
  have hcl := hopen.closed (c2 := c2) hg.2 hlines2 hcap2
  exact .of_loc_eq hloc rfl hcl.1 hcl.2 (hpref2.trans hpref1)

/-- `Span::set_local_parent` as it acts on the calling thread: push a guard, and — for a recording
    span, below the scope limit — a span line under the span's issued token -/
def Th.setLocalParent (th : Th) : SpanVal → Th
  | some sp =>
    match th.stack.registerLine (some (issueToken sp)) with
    | some (stack, epoch) => { th with stack := stack, guards := .scope (some epoch) :: th.guards }
    | none => { th with guards := .scope none :: th.guards }
  | none => { th with guards := .scope none :: th.guards }

theorem Th.setLocalParent_opened (c : Ctr) (th : Th) (sv : SpanVal) : ∃ g, Opened c th g (th.setLocalParent sv) := by
  unfold Th.setLocalParent
  split
  · split
    · next st e hr => exact ⟨_, rfl, rfl, _, hr⟩
    · exact ⟨_, rfl, rfl, rfl⟩
  · exact ⟨_, rfl, rfl, rfl⟩

theorem Th.setLocalParent_currentToken (th : Th) (sp : SpanInner) (hroom : th.stack.lines.length < th.stack.cap) :
    (th.setLocalParent (some sp)).stack.currentToken = some (issueToken sp) := by
  rw [Th.setLocalParent, Stack.registerLine_eq_some.mpr ⟨hroom, rfl, rfl⟩]
  exact SpanLine.new_currentToken ..

theorem Th.setLocalParent_full (th : Th) (sv : SpanVal) (hfull : th.stack.lines.length ≥ th.stack.cap) :
    th.setLocalParent sv = { th with guards := .scope none :: th.guards } := by
  cases sv with
  | none => rfl
  | some sp => rw [Th.setLocalParent, Stack.registerLine, if_pos hfull]

/-- the `scope` operation is `set_local_parent` on the thread -/
theorem exec_scope_th (s : Sys) (t : Nat) (v : String) (sv : SpanVal) (hv : assocGet s.spans v = some sv) :
    (exec s t (.scope v)).1.th t = (s.th t).setLocalParent sv := by
  dsimp only [exec]; rw [hv]
  cases sv with
  | none => exact Sys.th_setTh_same ..
  | some sp =>
    simp only [Th.setLocalParent]
    cases (s.th t).stack.registerLine (some (issueToken sp)) <;> exact Sys.th_setTh_same ..

theorem scope_opens (t : Nat) (v : String) : OpensGuard t (.scope v) := by
  intro s hok
  cases hv : assocGet s.spans v with
  | none => dsimp only [exec] at hok; rw [hv] at hok; cases hok
  | some sv => rw [exec_scope_th s t v sv hv]; exact Th.setLocalParent_opened ..

theorem collectorStart_opens (t : Nat) : OpensGuard t .collectorStart := by
  intro s _
  dsimp only [exec]
  cases hr : (s.th t).stack.registerLine none with
  | none => exact ⟨.collector none, by rw [Sys.th_setTh_same]; exact ⟨rfl, rfl, rfl⟩⟩
  | some r => exact ⟨.collector (some r.2), by rw [Sys.th_setTh_same]; exact ⟨rfl, rfl, none, hr⟩⟩

theorem localEnter_opened (s : Sys) (t : Nat) (n : String) :
    ∃ g, Opened (s.ctr t) (s.th t) g ((exec s t (.localEnter n)).1.th t) := by
  dsimp only [exec]
  cases hs : (s.th t).stack.enterSpan (s.ctr t) n with
  | none => exact ⟨.localSpan none, by rw [Sys.th_setTh_same]; exact ⟨rfl, rfl, rfl⟩⟩
  | some r =>
    exact ⟨.localSpan (some r.2.1), by rw [Sys.putCtr_th_same, Sys.th_setTh_same]; exact ⟨rfl, rfl, n, r.2.2, hs⟩⟩

theorem localEnter_opens (t : Nat) (n : String) : OpensGuard t (.localEnter n) := fun s _ => localEnter_opened s t n

/-- entering an adapter method, as it acts on the calling thread: for `enter_on_poll` it is
    `LocalSpan::enter_with_local_parent(name)`; an `in_span` future / stream / sink does `set_local_parent` on the
    span it holds (a no-op guard once the span has been taken) -/
theorem Sys.adPoll_th (s : Sys) (t : Nat) (a call : String) (ad : Adapter) (ha : assocGet s.adapters a = some ad) :
    (s.adPoll t a call).1.th t =
      if ad.kind = .enterOnPoll then (exec s t (.localEnter ad.name)).1.th t
      else (s.th t).setLocalParent (ad.span.getD none) := by
  unfold Sys.adPoll
  rw [ha]
  dsimp only
  split
  · next hk =>
    rw [if_pos hk]
    dsimp only [exec]
    cases (s.th t).stack.enterSpan (s.ctr t) ad.name with
    | none => exact (Sys.th_setTh_same ..).trans (Sys.th_setTh_same ..).symm
    | some r => dsimp only; rw [Sys.putCtr_th_same, Sys.putCtr_th_same, Sys.th_setTh_same, Sys.th_setTh_same]
  · next hk =>
    rw [if_neg fun h => hk h]
    rcases ad.span with _ | _ | sp
    · exact Sys.th_setTh_same ..
    · exact Sys.th_setTh_same ..
    · simp only [Option.getD_some, Th.setLocalParent]
      cases (s.th t).stack.registerLine (some (issueToken sp)) <;> exact Sys.th_setTh_same ..

theorem adPoll_opens (t : Nat) (a call : String) : OpensGuard t (.adPoll a call) := by
  intro s hok
  show ∃ g, Opened _ _ g ((s.adPoll t a call).1.th t)
  cases ha : assocGet s.adapters a with
  | none => dsimp only [exec] at hok; unfold Sys.adPoll at hok; rw [ha] at hok; cases hok
  | some ad =>
    rw [s.adPoll_th t a call ad ha]
    split
    · exact localEnter_opened s t ad.name
    · exact Th.setLocalParent_opened ..

theorem Sys.closeGuard_loc (S : Sys) (t : Nat) (g : Guard) :
    ((S.closeGuard t g).th t).loc = (g.closeStack (S.th t).stack (S.ctr t), (S.th t).guards, (S.th t).pref) := by
  rcases g with (_ | e) | (_ | h) | (_ | e)
  · rfl
  · dsimp only [Sys.closeGuard]
    split
    · rw [Sys.submitSpans_loc, Sys.putCtr_loc, Sys.th_setTh_same]; rfl
    · rw [Sys.putCtr_loc, Sys.th_setTh_same]; rfl
  · rfl
  · exact (Sys.putCtr_loc ..).trans (congrArg Th.loc (Sys.th_setTh_same ..))
  · rfl
  · exact congrArg Th.loc (Sys.th_setTh_same ..)

theorem close_eq (s : Sys) (t : Nat) (g : Guard) (gs : List Guard) (hg : (s.th t).guards = g :: gs) :
    exec s t .close = ((s.setTh t { s.th t with guards := gs }).closeGuard t g, .ok) := by
  dsimp only [exec]; rw [hg]

theorem close_closes (t : Nat) : ClosesGuard t .close := fun s g gs hg _ =>
  ⟨_, by rw [close_eq s t g gs hg, Sys.closeGuard_loc, Sys.th_setTh_same]⟩

theorem collect_closes (t : Nat) (x : String) : ClosesGuard t (.collect x) := by
  intro s g gs hg hok
  -- the operation is named `r` so that its arm of `exec` is opened once, not in `hok` and in the goal
  generalize hr : exec s t (.collect x) = r at hok ⊢
  dsimp only [exec] at hr
  split at hr
  · next e gs' hgd =>
    cases hg.symm.trans hgd
    subst hr
    refine ⟨s.ctr t, ?_⟩
    rw [th_withLspans, Sys.putCtr_loc]
    cases e with
    | none => dsimp only; rw [Sys.th_setTh_same]; rfl
    | some e => dsimp only; rw [Sys.th_setTh_same, Sys.th_setTh_same]; rfl
  · subst hr; cases hok

/-- a method of any adapter returns: the guard is dropped, then — iff this result finishes this
    kind of adapter — the span is taken and dropped -/
theorem Sys.adEnd_eq (s : Sys) (t : Nat) (a result call : String) (ad : Adapter) (g : Guard) (gs : List Guard)
    (ha : assocGet s.adapters a = some ad) (hg : (s.th t).guards = g :: gs) (hc : ad.inCall = some call) :
    (s.adEnd t a result).1 =
      (let s1 := (s.setTh t { s.th t with guards := gs }).closeGuard t g
       if adFinishes ad.kind call result then
         (({ s1 with adapters := assocSet s1.adapters a { ad with span := none, inCall := none } } : Sys).dropSpanVal t
            (ad.span.getD none))
       else { s1 with adapters := assocSet s1.adapters a { ad with inCall := none } }) := by
  unfold Sys.adEnd
  simp only [ha, hg, hc]
  by_cases hf : adFinishes ad.kind call result = true
  · rw [if_pos hf, if_pos hf]; cases ad.span <;> rfl
  · rw [if_neg hf, if_neg hf]

/-- when the adapter method returns, the thread-local state is what closing the adapter's
    guard leaves (finishing the span afterwards does not touch it) -/
theorem adEnd_closes (t : Nat) (a result : String) : ClosesGuard t (.adEnd a result) := by
  intro s g gs hg hok
  refine ⟨(s.setTh t { s.th t with guards := gs }).ctr t, ?_⟩
  show ((s.adEnd t a result).1.th t).loc = _
  replace hok : (s.adEnd t a result).2.isOk = true := hok
  unfold Sys.adEnd at hok
  cases ha : assocGet s.adapters a with
  | none => simp [ha, Obs.isOk] at hok
  | some ad =>
    cases hc : ad.inCall with
    | none => simp [ha, hg, hc, Obs.isOk] at hok
    | some call =>
      rw [s.adEnd_eq t a result call ad g gs ha hg hc]
      split
      · rw [Sys.dropSpanVal_loc, th_withAdapters, Sys.closeGuard_loc, Sys.th_setTh_same]
      · rw [th_withAdapters, Sys.closeGuard_loc, Sys.th_setTh_same]

end Fastrace
