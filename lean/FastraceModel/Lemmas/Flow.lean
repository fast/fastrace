import FastraceModel.Lemmas.Threads

/-!
Conservation of commands (the "nothing is lost, nothing is duplicated" half of C01/C03/C04/C08,
end to end): for every weight function `w : Cmd → Nat`

    weight of everything a channel ever accepted
      + weight of the cancel commands the collector made up itself (from `PARKED_CANCELS`, D21 repair)
      = weight still in flight (rings, overflow lists, drain buffers, deferred commits, commands
        carried over to the next cycle)
      + weight handed to the processing loops + weight drained without a reporter
      + weight lost when `Sender::drop` met a full ring (finding D3).

With `w` the indicator of one command this is equality of multiplicities, i.e. the accepted and
made-up commands are a permutation of in-flight ++ consumed ++ discarded ++ lostAtExit.

This file: the accounting functions and their behaviour under the elementary state updates.
`Lemmas/FlowOps.lean` lifts it to every operation of a thread, `Lemmas/FlowCycle.lean` to the
collector's operations, `exec` and `run`.
-/
namespace Fastrace

def wsum (w : Cmd → Nat) (l : List Cmd) : Nat := (l.map w).sum

@[simp] theorem wsum_nil (w : Cmd → Nat) : wsum w [] = 0 := rfl
@[simp] theorem wsum_cons (w : Cmd → Nat) (x : Cmd) (l : List Cmd) : wsum w (x :: l) = w x + wsum w l := rfl
@[simp] theorem wsum_append (w : Cmd → Nat) (a b : List Cmd) : wsum w (a ++ b) = wsum w a + wsum w b := by
  unfold wsum; rw [List.map_append, List.sum_append_nat]

theorem wsum_perm (w : Cmd → Nat) {a b : List Cmd} (h : a.Perm b) : wsum w a = wsum w b := (h.map w).sum_nat

theorem wsum_filter_split (w : Cmd → Nat) (p : Cmd → Bool) (l : List Cmd) :
    wsum w l = wsum w (l.filter p) + wsum w (l.filter (fun c => !p c)) := by
  rw [← wsum_append]; exact (wsum_perm w (List.filter_append_perm p l)).symm

theorem commitsOf_map (l : List Cmd) : (commitsOf l).map Cmd.commit = l.filter Cmd.isCommit := by
  induction l with
  | nil => rfl
  | cons x xs ih =>
    cases x with
    | commit id => exact congrArg (Cmd.commit id :: ·) ih
    | _ => exact ih

def ringsW (w : Cmd → Nat) (rs : List (Nat × Ring Cmd)) : Nat := (rs.map fun e => wsum w e.2.q).sum
def pendW (w : Cmd → Nat) (ths : List (Nat × Th)) : Nat := (ths.map fun e => wsum w e.2.pending).sum

@[simp] theorem ringsW_nil (w : Cmd → Nat) : ringsW w [] = 0 := rfl
@[simp] theorem ringsW_cons (w : Cmd → Nat) (e : Nat × Ring Cmd) (l : List (Nat × Ring Cmd)) :
    ringsW w (e :: l) = wsum w e.2.q + ringsW w l := rfl
@[simp] theorem ringsW_append (w : Cmd → Nat) (a b : List (Nat × Ring Cmd)) :
    ringsW w (a ++ b) = ringsW w a + ringsW w b := by
  unfold ringsW; rw [List.map_append, List.sum_append_nat]
@[simp] theorem pendW_nil (w : Cmd → Nat) : pendW w [] = 0 := rfl
@[simp] theorem pendW_cons (w : Cmd → Nat) (e : Nat × Th) (l : List (Nat × Th)) :
    pendW w (e :: l) = wsum w e.2.pending + pendW w l := rfl

theorem sum_natSet {β : Type} (f : β → Nat) (l : List (Nat × β)) (k : Nat) (v' : β) :
    ((natSet l k v').map fun e => f e.2).sum + ((natGet l k).map f).getD 0 = (l.map fun e => f e.2).sum + f v' := by
  cases h : natGet l k with
  | none =>
    have e := natSet_append_right h [] v'
    rw [List.append_nil] at e
    rw [e, List.map_append, List.sum_append_nat]
    rfl
  | some v =>
    obtain ⟨l1, l2, e1, e2⟩ := natSet_of_natGet h v'
    rw [e2, e1]
    simp only [List.map_append, List.map_cons, List.sum_append_nat, List.sum_cons, Option.map_some, Option.getD_some]
    omega

theorem ringsW_natSet_some (w : Cmd → Nat) (l : List (Nat × Ring Cmd)) (k : Nat) (r r' : Ring Cmd)
    (h : natGet l k = some r) : ringsW w (natSet l k r') + wsum w r.q = ringsW w l + wsum w r'.q := by
  have e := sum_natSet (fun r => wsum w r.q) l k r'
  rw [h] at e
  exact e

theorem RingsStep.weight {t : Nat} {l l' : List (Nat × Ring Cmd)} {q : List Cmd} (h : RingsStep t l q l') (w : Cmd → Nat) :
    ringsW w l = ringsW w l' + wsum w q := by
  cases h with
  | pop l1 r l2 =>
    rw [ringsW_append, ringsW_append, ringsW_cons, ringsW_cons, wsum_nil, Nat.zero_add]
    exact (Nat.add_left_comm ..).trans (Nat.add_comm ..)
  | rotate r l => rw [ringsW_cons, ringsW_append]; exact Nat.add_comm ..
  | drop r l hq => rw [ringsW_cons, hq]; exact Nat.zero_add _
  | same l => rfl

theorem pendW_setTh (w : Cmd → Nat) (s : Sys) (t : Nat) (th' : Th) :
    pendW w (s.setTh t th').threads + wsum w (s.th t).pending = pendW w s.threads + wsum w th'.pending := by
  have e := sum_natSet (fun th => wsum w th.pending) s.threads t th'
  unfold Sys.th
  cases h : natGet s.threads t <;> rw [h] at e <;> exact e

/-- the rings, wherever they currently are, and the drain buffers -/
def cycW (w : Cmd → Nat) : Option CycState → List (Nat × Ring Cmd) → Nat
  | none, rxs => ringsW w rxs
  | some cs, _ => ringsW w cs.todo + ringsW w cs.kept + wsum w cs.buf + wsum w cs.buf2

/-- everything in flight -/
def Sys.flow (w : Cmd → Nat) (s : Sys) : Nat :=
  cycW w s.cyc s.rxs + pendW w s.threads + wsum w (s.deferred.map Cmd.commit) + wsum w s.carried

/-- a weight that counts span sets per token item: the weight of a span set submitted under a token
    is the sum of its weights under the single items.  (The collector may split a span set between
    two cycles, item by item; nothing is conserved at a coarser grain.) -/
def Additive (w : Cmd → Nat) : Prop :=
  ∀ sp tok, w (.submit sp tok) = (tok.map fun it => w (.submit sp [it])).sum

theorem Additive.filter_split {w : Cmd → Nat} (hw : Additive w) (sp : SpanSet) (tok : Token) (p : TokenItem → Bool) :
    w (.submit sp tok) = w (.submit sp (tok.filter p)) + w (.submit sp (tok.filter fun it => !p it)) := by
  rw [hw sp tok, hw sp (tok.filter p), hw sp (tok.filter fun it => !p it), ← List.sum_append_nat, ← List.map_append]
  exact ((List.filter_append_perm p tok).map _).sum_nat.symm

theorem Additive.nil {w : Cmd → Nat} (hw : Additive w) (sp : SpanSet) : w (.submit sp []) = 0 := by
  rw [hw sp []]; rfl

/-- an emptied span set weighs nothing, so it may be dropped -/
theorem Additive.bif_nonempty {w : Cmd → Nat} (hw : Additive w) (sp : SpanSet) (tok : Token) :
    (bif !tok.isEmpty then w (.submit sp tok) else 0) = w (.submit sp tok) := by
  cases tok with
  | nil => exact (hw.nil sp).symm
  | cons _ _ => rfl

theorem wsum_map (w : Cmd → Nat) (f : Cmd → Cmd) (l : List Cmd) : wsum w (l.map f) = wsum (fun x => w (f x)) l := by
  unfold wsum; rw [List.map_map]; rfl

theorem wsum_filter (w : Cmd → Nat) (p : Cmd → Bool) (l : List Cmd) :
    wsum w (l.filter p) = wsum (fun x => bif p x then w x else 0) l := by
  induction l with
  | nil => rfl
  | cons x xs ih =>
    rw [List.filter_cons, wsum_cons, ← ih]
    cases p x
    · exact (Nat.zero_add _).symm
    · rfl

theorem wsum_add (f g : Cmd → Nat) (l : List Cmd) : wsum (fun x => f x + g x) l = wsum f l + wsum g l := by
  induction l with
  | nil => rfl
  | cons x xs ih => rw [wsum_cons, wsum_cons, wsum_cons, ih]; exact Nat.add_add_add_comm ..

/-- the second pass is split without loss: handled now + carried + its commits.  Command by command: a start is handled
    now, a commit counted apart, a cancel goes to one side, a span set is divided between the two by token items. -/
theorem splitSecond_w {w : Cmd → Nat} (hw : Additive w) (cb : Bool) (c1 c2 : Coll) (cm : List Nat) (l : List Cmd) :
    wsum w l = wsum w (splitSecond cb c1 c2 cm l).1 + wsum w (splitSecond cb c1 c2 cm l).2 + wsum w (l.filter Cmd.isCommit) := by
  rw [splitSecond_eq]
  dsimp only
  rw [splitSide, splitSide, wsum_map, wsum_map, wsum_filter, wsum_filter, wsum_filter, ← wsum_add, ← wsum_add]
  congr 1
  funext x
  cases x with
  | start id => rfl
  | commit id => exact (Nat.zero_add _).symm
  | drop id =>
    dsimp only [Cmd.passes, Cmd.trim, Cmd.isCommit]
    cases c1.known id
    · exact (Nat.zero_add _).symm
    · rfl
  | submit sp tok =>
    dsimp only [Cmd.passes, Cmd.trim, Cmd.isCommit]
    rw [hw.bif_nonempty, hw.bif_nonempty]
    exact (hw.filter_split sp tok (carryItem cb c2 cm sp)).trans (Nat.add_comm _ _)

/-- everything that has left the channels -/
def Ghost.out (w : Cmd → Nat) (g : Ghost) : Nat :=
  wsum w g.consumed + wsum w g.discarded + wsum w g.lostAtExit

@[simp] theorem Sys.withG_flow (w : Cmd → Nat) (s : Sys) (g : Ghost) : (s.withG g).flow w = s.flow w := rfl

theorem Sys.setTh_flow_same (w : Cmd → Nat) (s : Sys) (t : Nat) (th' : Th) (h : th'.pending = (s.th t).pending) :
    (s.setTh t th').flow w = s.flow w := by
  have e := pendW_setTh w s t th'
  rw [h] at e
  unfold Sys.flow
  rw [Nat.add_right_cancel e]
  rfl

theorem Sys.putCtr_flow (w : Cmd → Nat) (s : Sys) (t : Nat) (c : Ctr) : (s.putCtr t c).flow w = s.flow w := by
  unfold Sys.putCtr
  show (Sys.setTh s t _).flow w = _
  exact Sys.setTh_flow_same w s t _ rfl

theorem cycW_some (w : Cmd → Nat) (cs : CycState) (rxs : List (Nat × Ring Cmd)) :
    cycW w (some cs) rxs = ringsW w (cs.todo ++ cs.kept) + wsum w (cs.buf ++ cs.buf2) := by
  rw [ringsW_append, wsum_append]; exact Nat.add_assoc ..

theorem cycW_eq (w : Cmd → Nat) (s : Sys) : cycW w s.cyc s.rxs = ringsW w s.rings + wsum w s.popped := by
  unfold Sys.rings Sys.popped
  cases s.cyc with
  | none => rfl
  | some cs => exact cycW_some w cs s.rxs

theorem Sys.flow_eq (w : Cmd → Nat) (s : Sys) : s.flow w = ringsW w s.rings + pendW w s.threads +
    (wsum w s.popped + wsum w (s.deferred.map Cmd.commit) + wsum w s.carried) := by
  unfold Sys.flow
  rw [cycW_eq, Nat.add_right_comm (ringsW w s.rings), Nat.add_assoc, Nat.add_assoc, ← Nat.add_assoc (wsum w s.popped)]

/-- `register` adds an empty receiver: nothing in flight changes -/
theorem Sys.register_flow (w : Cmd → Nat) (s s' : Sys) (t : Nat) (h : s.register t = some s') :
    s'.flow w = s.flow w ∧ s'.g = s.g ∧ s'.coll = s.coll := by
  rcases Sys.register_cases h with rfl | ⟨_, e, hr, hp⟩
  · exact ⟨rfl, rfl, rfl⟩
  · have hs := Sys.setTh_flow_same w s t { s.th t with registered := true } rfl
    refine ⟨?_, by rw [e]; rfl, by rw [e]; rfl⟩
    unfold Sys.flow at hs ⊢
    rw [cycW_eq] at hs ⊢
    rw [hr, hp, ringsW_append]
    rw [e]
    show _ + (wsum w [] + 0) + _ + pendW w (s.setTh t _).threads + _ + _ = _
    exact hs

theorem Sys.register_pending (s s' : Sys) (t t2 : Nat) (h : s.register t = some s') :
    (s'.th t2).pending = (s.th t2).pending := by
  obtain ⟨r, e⟩ := Sys.register_th h t2
  rw [e]

end Fastrace
