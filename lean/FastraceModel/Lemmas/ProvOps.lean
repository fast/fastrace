import FastraceModel.Lemmas.Prov
import FastraceModel.Lemmas.Threads

/-!
Provenance is an invariant: the collector's operations preserve `Prov`, every operation of a thread does
(`exec_toks` at `TokOk T U`, `Flight.moves`), and every report `exec` returns satisfies `RecsOk`.
-/
namespace Fastrace

/-! `StackOk T U` is `StackAll` of "the token, if there is one, is `TokOk T U`" -/

theorem StackOk.addEvent {T U : List Nat} {st : Stack} (hok : StackOk T U st) (c : Ctr) (n : String) (p : Option Props) :
    StackOk T U (st.addEvent c n p).1 :=
  StackAll.addEvent (P := fun o => ∀ tok, o = some tok → TokOk T U tok) hok c n p

theorem StackOk.addProps {T U : List Nat} {st : Stack} (hok : StackOk T U st) (c : Ctr) (kvs : Props) :
    StackOk T U (st.addProps c kvs).1 :=
  StackAll.addProps (P := fun o => ∀ tok, o = some tok → TokOk T U tok) hok c kvs

theorem StackOk.withProps {T U : List Nat} {st : Stack} (hok : StackOk T U st) (h : LocalHandle) (kvs : Props) :
    StackOk T U (st.withProps h kvs) :=
  StackAll.withProps (P := fun o => ∀ tok, o = some tok → TokOk T U tok) hok h kvs

theorem StackOk.unregister {T U : List Nat} {st : Stack} (hok : StackOk T U st) (e : Nat) :
    StackOk T U (st.unregisterAndCollect e).1 ∧
    ∀ spans tok, (st.unregisterAndCollect e).2 = some (spans, some tok) → TokOk T U tok :=
  have h := StackAll.unregister (P := fun o => ∀ tok, o = some tok → TokOk T U tok) hok e
  ⟨h.1, fun spans tok hc => h.2 spans (some tok) hc tok rfl⟩

theorem CmdOk.trim {T : List Nat} (p : SpanSet → TokenItem → Bool) : ∀ c, CmdOk T c → CmdOk T (c.trim p)
  | .submit _ _, h => fun it hit => h it (List.mem_filter.mp hit).1
  | .start _, h | .commit _, h | .drop _, h => h

theorem splitSecond_ok {T : List Nat} (cb : Bool) (c1 c2 : Coll) (cm : List Nat) (l : List Cmd) (h : ∀ c ∈ l, CmdOk T c) :
    (∀ c ∈ (splitSecond cb c1 c2 cm l).1, CmdOk T c) ∧ ∀ c ∈ (splitSecond cb c1 c2 cm l).2, CmdOk T c := by
  rw [splitSecond_eq]
  exact ⟨forall_splitSide (CmdOk.trim _) h, forall_splitSide (CmdOk.trim _) h⟩

theorem Prov.finishCycle {T U : List Nat} {s : Sys} (h : Prov T U s) (kept : List (Nat × Ring Cmd)) (buf buf2 : List Cmd)
    (hk : RingsOk T kept) (hb : ∀ c ∈ buf, CmdOk T c) (hb2 : ∀ c ∈ buf2, CmdOk T c) :
    Prov T U (s.finishCycle kept buf buf2).1 ∧ ∀ rs, (s.finishCycle kept buf buf2).2 = some rs → RecsOk T rs := by
  have hsplit : (∀ c ∈ (s.cycleSplit buf buf2).1, CmdOk T c) ∧ ∀ c ∈ (s.cycleSplit buf buf2).2, CmdOk T c := by
    unfold Sys.cycleSplit
    exact splitSecond_ok (T := T) _ _ _ _ buf2 hb2
  have hbatch : ∀ c ∈ s.cycleBatch buf buf2, CmdOk T c :=
    List.forall_mem_append.mpr ⟨List.forall_mem_append.mpr ⟨fun c hc => by obtain ⟨id, -, rfl⟩ := List.mem_map.mp hc; trivial,
      List.forall_mem_append.mpr ⟨h.carried, hb⟩⟩, hsplit.1⟩
  have hc := cycleProcess_ok T id s.coll _ h.coll hbatch
  cases hr : s.coll.hasReporter with
  | true =>
    rw [Sys.finishCycle_on hr]
    exact ⟨⟨h.spans, h.adapters, h.threads, hk, fun _ e => (nomatch e), hc.1, hsplit.2⟩, hc.2⟩
  | false =>
    rw [Sys.finishCycle_off hr]
    exact ⟨⟨h.spans, h.adapters, h.threads, hk, fun _ e => (nomatch e), h.coll, fun _ e => (nomatch e)⟩, fun _ e => (nomatch e)⟩

theorem Prov.finishCycleP {T U : List Nat} {s : Sys} (h : Prov T U s) (kept : List (Nat × Ring Cmd)) (buf buf2 : List Cmd)
    (hk : RingsOk T kept) (hb : ∀ c ∈ buf, CmdOk T c) (hb2 : ∀ c ∈ buf2, CmdOk T c) :
    Prov T U (s.finishCycleP kept buf buf2).1 ∧ ∀ rs, (s.finishCycleP kept buf buf2).2 = some rs → RecsOk T rs := by
  have := h.finishCycle kept buf (buf2 ++ (s.parkedFor buf).1.map Cmd.drop) hk hb
    (List.forall_mem_append.mpr ⟨hb2, fun c hc => by obtain ⟨i, -, rfl⟩ := List.mem_map.mp hc; trivial⟩)
  rw [Sys.finishCycleP_eq]
  -- generalised as in `collInv_finishCycleP`
  generalize s.finishCycle kept buf _ = r at this
  exact ⟨⟨this.1.spans, this.1.adapters, this.1.threads, this.1.rxs, this.1.cyc, this.1.coll, this.1.carried⟩, this.2⟩

theorem drainAll_ok {T : List Nat} (rxs : List (Nat × Ring Cmd)) (h : RingsOk T rxs) :
    RingsOk T (drainAll rxs).1 ∧ ∀ c ∈ (drainAll rxs).2, CmdOk T c := by
  refine ⟨fun e he c hc => ?_, fun c hc => ?_⟩
  · rw [(mem_drainAll_kept he).2] at hc; cases hc
  · rw [drainAll_buf] at hc
    obtain ⟨e, he, hc⟩ := List.mem_flatMap.mp hc
    exact h e he c hc

theorem Prov.cycle {T U : List Nat} {s : Sys} (h : Prov T U s) :
    Prov T U s.cycle.1 ∧ ∀ rs, s.cycle.2 = some rs → RecsOk T rs := by
  unfold Sys.cycle
  have hd := drainAll_ok s.rxs h.rxs
  exact (h.withG _).finishCycleP _ _ [] hd.1 hd.2 (by simp)

def CycOk (T : List Nat) (cs : CycState) : Prop :=
  RingsOk T cs.todo ∧ RingsOk T cs.kept ∧ (∀ c ∈ cs.buf, CmdOk T c) ∧ ∀ c ∈ cs.buf2, CmdOk T c

theorem Prov.withCyc {T U : List Nat} {s : Sys} (h : Prov T U s) (cs : CycState)
    (hcs : CycOk T cs) : Prov T U { s with cyc := some cs } :=
  ⟨h.spans, h.adapters, h.threads, h.rxs, (fun cs' e => by cases e; exact hcs), h.coll, h.carried⟩

theorem Prov.cycStep {T U : List Nat} {s : Sys} (h : Prov T U s) :
    Prov T U s.cycStep.1 ∧ ∀ rs, s.cycStep.2 = .report (some rs) → RecsOk T rs := by
  cases hc : s.cyc with
  | none => rw [Sys.cycStep_none hc]; exact ⟨h, fun rs e => nomatch e⟩
  | some cs =>
    obtain ⟨h1, h2, h3, h4⟩ := h.cyc cs hc
    by_cases hph : cs.phase = .atReport
    · have := h.finishCycleP cs.kept cs.buf cs.buf2 h2 h3 h4
      rw [Sys.cycStep_report hc hph]
      exact ⟨this.1, fun rs e => this.2 rs (Obs.report.inj e)⟩
    · obtain ⟨cs', t, q, ph, e, hr, hp, _⟩ := Sys.cycStep_drain hc hph
      rw [e]
      have hr' := hr.ringsOk (ringsOk_append.mpr ⟨h1, h2⟩)
      have hb : ∀ c ∈ cs'.buf ++ cs'.buf2, CmdOk T c := fun c hm => by
        rcases List.mem_append.mp (hp.subset hm) with hm | hm
        · exact (List.forall_mem_append.mpr ⟨h3, h4⟩) c hm
        · exact hr'.2 c hm
      have hb' := List.forall_mem_append.mp hb
      have hk := ringsOk_append.mp hr'.1
      exact ⟨(h.withG _).withCyc cs' ⟨hk.1, hk.2, hb'.1, hb'.2⟩, fun rs e => by cases e⟩

theorem Prov.cycBegin {T U : List Nat} {s : Sys} (h : Prov T U s) :
    Prov T U s.cycBegin.1 ∧ ∀ rs, s.cycBegin.2 = .report (some rs) → RecsOk T rs := by
  rcases s.cycBegin_cases with ⟨w, e⟩ | ⟨ph, p, -, -, e⟩ <;> rw [e]
  · exact ⟨h, fun rs e => nomatch e⟩
  · exact ⟨h.withCyc _ ⟨h.rxs, fun _ h => (nomatch h), fun _ h => (nomatch h), fun _ h => (nomatch h)⟩, fun rs e => nomatch e⟩

/-- the trace id an operation introduces as *sampled*: only a sampled `root` does -/
def opTraces : Op → List Nat
  | .root _ _ tr _ true => [tr]
  | _ => []

theorem mem_opTraces {op : Op} {tr : Nat} : tr ∈ opTraces op ↔ ∃ v n sp, op = .root v n tr sp true := by
  unfold opTraces
  split
  · next v n t2 sp =>
    exact ⟨fun h => ⟨v, n, sp, List.mem_singleton.mp h ▸ rfl⟩, fun ⟨_, _, _, e⟩ => by cases e; exact List.mem_singleton_self _⟩
  · next hne => exact ⟨fun h => (nomatch h), fun ⟨v, n, sp, e⟩ => (hne v n tr sp e).elim⟩

/-- the trace id an operation introduces as *unsampled*: an unsampled `root` (`spam` creates
    unsampled roots of trace 0) -/
def opTracesU : Op → List Nat
  | .root _ _ tr _ false => [tr]
  | .spam _ => [0]
  | _ => []

/-- what an observation may say: a report carries only sampled roots' trace ids; an extracted
    context carries a sampled root's trace id with `sampled = true` or an unsampled root's with
    `sampled = false` -/
def ObsOk (T U : List Nat) (o : Obs) : Prop :=
  (∀ rs, o = .report (some rs) → RecsOk T rs) ∧
  (∀ c, o = .ctx (some c) → (c.sampled = true → c.traceId ∈ T) ∧ (c.sampled = false → c.traceId ∈ U))

theorem obsOk_of_inert {T U : List Nat} {o : Obs} (h : o.inert = true) : ObsOk T U o :=
  ⟨fun rs e => (by subst e; cases h), fun c e => by subst e; cases h⟩

theorem obsOk_ctxOfToken {T U : List Nat} {tok : Token} (h : TokOk T U tok) : ObsOk T U (.ctx (ctxOfToken tok)) :=
  ⟨fun rs e => (nomatch e), fun c e => by
    cases tok with
    | nil => cases e
    | cons it rest => cases e; exact h it List.mem_cons_self⟩

theorem obsOk_report {T U : List Nat} {rep : Option (List Record)} (h : ∀ rs, rep = some rs → RecsOk T rs) :
    ObsOk T U (.report rep) :=
  ⟨fun rs e => h rs (Obs.report.inj e), fun _ e => nomatch e⟩

theorem Prov.init (T U : List Nat) : Prov T U Sys.init :=
  prov_iff.mpr ⟨.init, fun _ _ h => (nomatch h), fun _ h => (nomatch h), fun _ h => (nomatch h), fun _ h => (nomatch h),
    fun _ h => (nomatch h)⟩

theorem exec_prov (T U : List Nat) (s : Sys) (t : Nat) (op : Op) (hsub : ∀ x ∈ opTraces op, x ∈ T)
    (hsubU : ∀ x ∈ opTracesU op, x ∈ U) (h : Prov T U s) :
    Prov T U (exec s t op).1 ∧ ObsOk T U (exec s t op).2 := by
  refine exec_ind (P := fun r => Prov T U r.1 ∧ ObsOk T U r.2) s t op (hthread := fun hc => ?_)
    (hset := fun _ _ => ⟨⟨h.spans, h.adapters, h.threads, h.rxs, h.cyc, h.coll, h.carried⟩, obsOk_of_inert rfl⟩)
    (hbad := fun _ => ⟨h, obsOk_of_inert rfl⟩) (hcycle := fun _ => ⟨h.cycle.1, obsOk_report h.cycle.2⟩)
    (hbegin := fun _ => ⟨h.cycBegin.1, obsOk_of_inert rfl⟩) (hstep := ⟨h.cycStep.1, h.cycStep.2, fun c e => ?_⟩)
  · -- a thread operation: the tokens by `exec_toks`, the commands along the sequence of updates
    obtain ⟨ht, hf⟩ := prov_iff.mp h
    obtain ⟨hr, ho⟩ := exec_toks (t := t) (tokClosed_tokOk T U) op hc ht
      (fun v n tr sp b e _ cid it hit => by
        rw [List.mem_singleton.mp hit]; subst e
        exact ⟨fun hb => hsub tr (mem_opTraces.mpr ⟨v, n, sp, (show b = true from hb) ▸ rfl⟩),
          fun hb => hsubU tr (by rw [show b = false from hb]; exact List.mem_singleton_self _)⟩)
      (fun n e _ _ it hit => by
        rw [List.mem_singleton.mp hit]; subst e
        exact ⟨(fun hb => nomatch hb), fun _ => hsubU 0 (List.mem_singleton_self 0)⟩)
    refine ⟨prov_iff.mpr ⟨hr.toks, hf.moves (fun _ => CmdQ.cmdOk) hr.moves⟩, fun rs e => absurd e (ho.report _), fun c e => ?_⟩
    obtain ⟨tok, htok, hctx⟩ := ho.ctx c e
    exact (obsOk_ctxOfToken (T := T) (U := U) htok).2 c (by rw [hctx])
  · rcases Sys.cycStep_obs s with ⟨r, hr⟩ | ⟨p, hr⟩ | ⟨w, hr⟩ <;> cases hr.symm.trans e

theorem Prov.exitThread {T U : List Nat} {s : Sys} (h : Prov T U s) (t : Nat) : Prov T U (s.exitThread t) :=
  (exec_prov T U s t .exit (fun _ hx => nomatch hx) (fun _ hx => nomatch hx) h).1

theorem Prov.closeUnder {T U : List Nat} {s : Sys} (h : Prov T U s) (t : Nat) : Prov T U (s.closeUnder t).1 :=
  (exec_prov T U s t .closeUnder (fun _ hx => nomatch hx) (fun _ hx => nomatch hx) h).1

theorem Prov.collectUnder {T U : List Nat} {s : Sys} (h : Prov T U s) (t : Nat) (x : String) : Prov T U (s.collectUnder t x).1 :=
  (exec_prov T U s t (.collectUnder x) (fun _ hx => nomatch hx) (fun _ hx => nomatch hx) h).1

def sampledRootTraces (p : Program) : List Nat := p.flatMap fun x => opTraces x.2

/-- the trace ids supplied to unsampled `root` operations (and 0 for `spam`) -/
def unsampledRootTraces (p : Program) : List Nat := p.flatMap fun x => opTracesU x.2

theorem run_prov (T U : List Nat) (p : Program) (s : Sys) (hp : ∀ x ∈ p, ∀ tr ∈ opTraces x.2, tr ∈ T)
    (hpU : ∀ x ∈ p, ∀ tr ∈ opTracesU x.2, tr ∈ U) (h : Prov T U s) :
    ∀ o ∈ (run s p).2, ObsOk T U o := by
  induction p generalizing s with
  | nil => intro o ho; cases ho
  | cons x rest ih =>
    obtain ⟨t, op⟩ := x
    have he := exec_prov T U s t op (hp (t, op) List.mem_cons_self) (hpU (t, op) List.mem_cons_self) h
    intro o ho
    simp only [run, List.mem_cons] at ho
    rcases ho with rfl | ho
    · exact he.2
    · exact ih (exec s t op).1 (fun y hy => hp y (List.mem_cons_of_mem _ hy)) (fun y hy => hpU y (List.mem_cons_of_mem _ hy)) he.1 o ho

theorem run_prov_init (p : Program) : ∀ o ∈ (run Sys.init p).2, ObsOk (sampledRootTraces p) (unsampledRootTraces p) o :=
  run_prov _ _ p Sys.init (fun x hx _ htr => List.mem_flatMap.mpr ⟨x, hx, htr⟩)
    (fun x hx _ htr => List.mem_flatMap.mpr ⟨x, hx, htr⟩) (Prov.init _ _)

end Fastrace
