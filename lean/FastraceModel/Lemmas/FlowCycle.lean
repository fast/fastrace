import FastraceModel.Lemmas.FlowOps

/-!
The collector's operations keep `ChanInv`: a drain moves commands from the rings into the drain
buffers, `finishCycle` moves them into `consumed` (or `discarded`, without a reporter), commits
first seen in the second pass stay in flight as `deferred`.  Then `exec` and `run`.
-/
namespace Fastrace

theorem ringsW_zero (w : Cmd → Nat) (rs : List (Nat × Ring Cmd)) (h : ∀ e ∈ rs, e.2.q = []) : ringsW w rs = 0 :=
  List.sum_eq_zero_iff_forall_eq_nat.mpr (List.forall_mem_map.mpr fun e he => congrArg (wsum w) (h e he))

theorem ringsW_flatMap (w : Cmd → Nat) (rs : List (Nat × Ring Cmd)) : ringsW w rs = wsum w (rs.flatMap (·.2.q)) := by
  induction rs with
  | nil => rfl
  | cons e rest ih => rw [ringsW_cons, List.flatMap_cons, wsum_append, ih]

/-- a whole drain: the receivers it keeps are empty, the buffer holds what the rings held -/
theorem drainAll_w (w : Cmd → Nat) (rxs : List (Nat × Ring Cmd)) :
    ringsW w rxs = ringsW w (drainAll rxs).1 + wsum w (drainAll rxs).2 := by
  rw [ringsW_zero w _ fun e he => (mem_drainAll_kept he).2, drainAll_buf, Nat.zero_add, ringsW_flatMap]

theorem ChanInv.init : ChanInv Sys.init := by
  refine ⟨fun w _ => rfl, ?_, ?_, ?_⟩
  · intro e he
    simp [Sys.init] at he
  · intro cs hcs
    cases hcs
  · intro c hc
    simp [Sys.init] at hc

/-- **processing loses no command**: what it is handed (the batch), what it carries over and the commits it defers
    are, by weight, the commits deferred and the commands carried over by the cycle before plus both drain buffers -/
theorem Sys.cycleBatch_w (s : Sys) (buf buf2 : List Cmd) {w : Cmd → Nat} (hw : Additive w) :
    wsum w (s.cycleBatch buf buf2) + wsum w (s.cycleSplit buf buf2).2 + wsum w ((commitsOf buf2).map Cmd.commit) =
      wsum w (s.deferred.map Cmd.commit) + wsum w s.carried + wsum w buf + wsum w buf2 := by
  have e2 : wsum w buf2 = wsum w (s.cycleSplit buf buf2).1 + wsum w (s.cycleSplit buf buf2).2 + wsum w (buf2.filter Cmd.isCommit) :=
    splitSecond_w hw _ _ _ _ buf2
  rw [commitsOf_map, Sys.cycleBatch, wsum_append, wsum_append, wsum_append, e2]
  simp only [Nat.add_assoc]

theorem Ghost.out_consumed (w : Cmd → Nat) (g : Ghost) (b : List Cmd) (r : List Record) :
    Ghost.out w { g with consumed := b ++ g.consumed, reported := r } = wsum w b + g.out w := by
  unfold Ghost.out
  dsimp only
  rw [wsum_append]
  simp only [Nat.add_assoc]

theorem Ghost.out_discarded (w : Cmd → Nat) (g : Ghost) (b : List Cmd) :
    Ghost.out w { g with discarded := b ++ g.discarded } = wsum w b + g.out w := by
  unfold Ghost.out
  dsimp only
  rw [wsum_append, Nat.add_left_comm, Nat.add_assoc]

/-- processing moves weight and loses none: what it defers, carries over and has let out of the channels afterwards is
    what was deferred and carried over before, both drain buffers, and what had left the channels already -/
theorem Sys.finishCycle_moved (s : Sys) (kept : List (Nat × Ring Cmd)) (buf buf2 : List Cmd) {w : Cmd → Nat} (hw : Additive w) :
    wsum w ((s.finishCycle kept buf buf2).1.deferred.map Cmd.commit) + wsum w (s.finishCycle kept buf buf2).1.carried
        + (s.finishCycle kept buf buf2).1.g.out w =
      wsum w (s.deferred.map Cmd.commit) + wsum w s.carried + wsum w buf + wsum w buf2 + s.g.out w := by
  rw [← s.cycleBatch_w buf buf2 hw]
  cases hr : s.coll.hasReporter with
  | false =>
    rw [Sys.finishCycle_off hr]
    dsimp only
    rw [Ghost.out_discarded, commitsOf_map, wsum_append, wsum_append]
    exact Nat.zero_add _
  | true =>
    rw [Sys.finishCycle_on hr]
    dsimp only
    rw [Ghost.out_consumed]
    omega

/-- the accounting after processing: `kept`, `buf`, `buf2` account for what the rings and the drain buffers held, plus
    the cancel commands `extra` the collector made up itself (from `PARKED_CANCELS`) -/
theorem ChanInv.finishCycle_cons {s : Sys} (h : ChanInv s) (kept : List (Nat × Ring Cmd)) (buf buf2 : List Cmd) (extra : List Nat)
    (hk : ∀ w, cycW w s.cyc s.rxs + wsum w (extra.map Cmd.drop) = ringsW w kept + wsum w buf + wsum w buf2)
    {w : Cmd → Nat} (hw : Additive w) :
    wsum w s.g.accepted + wsum w ((extra ++ s.g.injected).map Cmd.drop) =
      (s.finishCycle kept buf buf2).1.flow w + (s.finishCycle kept buf buf2).1.g.out w := by
  have e := h.cons w hw
  have e1 := hk w
  have e2 := s.finishCycle_moved kept buf buf2 hw
  obtain ⟨f1, f2, f3, -⟩ := s.finishCycle_same kept buf buf2
  unfold Sys.flow at e ⊢
  rw [List.map_append, wsum_append, f1, f2, f3]
  show _ = ringsW w kept + _ + _ + _ + _
  omega

theorem ChanInv.finishCycle {s : Sys} (h : ChanInv s) (kept : List (Nat × Ring Cmd)) (buf buf2 : List Cmd)
    (hk : ∀ w, cycW w s.cyc s.rxs = ringsW w kept + wsum w buf + wsum w buf2) :
    ChanInv (s.finishCycle kept buf buf2).1 := by
  obtain ⟨f1, -, f3, f4, f5, f6, -⟩ := s.finishCycle_same kept buf buf2
  refine ⟨fun w hw => ?_, f3 ▸ h.sig, fun cs hcs => (nomatch f1 ▸ hcs), f6 ▸ h.lost⟩
  rw [f4, f5]
  exact h.finishCycle_cons kept buf buf2 [] (fun w => by rw [hk w]; rfl) hw

/-- processing with the cancel commands derived from `PARKED_CANCELS` -/
theorem ChanInv.finishCycleP {s : Sys} (h : ChanInv s) (kept : List (Nat × Ring Cmd)) (buf buf2 : List Cmd)
    (hk : ∀ w, cycW w s.cyc s.rxs = ringsW w kept + wsum w buf + wsum w buf2) :
    ChanInv (s.finishCycleP kept buf buf2).1 := by
  have hc := @ChanInv.finishCycle_cons s h kept buf (buf2 ++ (s.parkedFor buf).1.map Cmd.drop) (s.parkedFor buf).1
    (fun w => by rw [wsum_append, hk w]; exact Nat.add_assoc ..)
  obtain ⟨f1, -, f3, f4, f5, f6, -⟩ := s.finishCycle_same kept buf (buf2 ++ (s.parkedFor buf).1.map Cmd.drop)
  rw [Sys.finishCycleP_eq]
  -- generalised as in `collInv_finishCycleP`
  generalize s.finishCycle kept buf _ = r at hc f1 f3 f4 f5 f6
  rw [← f4, ← f5] at hc
  exact ⟨fun w hw => hc hw, f3 ▸ h.sig, fun cs hcs => (nomatch f1 ▸ hcs), f6 ▸ h.lost⟩

theorem ChanInv.withCyc {s : Sys} (h : ChanInv s) (cs' : CycState)
    (hw : ∀ w, cycW w (some cs') s.rxs = cycW w s.cyc s.rxs)
    (hwf : (cs'.phase = .atRx2 ∨ cs'.phase = .atReport) → cs'.todo = []) : ChanInv { s with cyc := some cs' } := by
  refine ⟨fun w hadd => ?_, h.sig, fun cs hcs hp => ?_, h.lost⟩
  · show _ = cycW w (some cs') s.rxs + pendW w s.threads + wsum w (s.deferred.map Cmd.commit) + wsum w s.carried + Ghost.out w s.g
    rw [hw w]
    exact h.cons w hadd
  · cases hcs
    exact hwf hp

theorem ChanInv.cycBegin {s : Sys} (h : ChanInv s) : ChanInv s.cycBegin.1 := by
  rcases s.cycBegin_cases with ⟨w, e⟩ | ⟨ph, p, hc, hph, e⟩ <;> rw [e]
  · exact h
  · refine h.withCyc _ (fun w => by rw [hc]; rfl) fun hp => ?_
    rcases hph with rfl | ⟨-, hr⟩
    · rcases hp with hp | hp <;> cases hp
    · exact hr

/-- the ghost log of what was popped does not enter the accounting -/
theorem ChanInv.logDrained {s : Sys} (h : ChanInv s) (t : Nat) (q : List Cmd) : ChanInv (s.logDrained t q) :=
  h.withG_side { s.g with drainedBy := (q.map (fun c => (t, c))).reverse ++ s.g.drainedBy } rfl rfl rfl rfl

theorem getD_q (o : Option (Ring Cmd)) : (o.getD (Ring.new Consts.ringCap)).q = (o.map (·.q)).getD [] := by
  cases o <;> rfl

theorem ChanInv.cycStep {s : Sys} (h : ChanInv s) : ChanInv s.cycStep.1 := by
  cases hc : s.cyc with
  | none => rw [Sys.cycStep_none hc]; exact h
  | some cs =>
    have hwf := h.wf cs hc
    by_cases hph : cs.phase = .atReport
    · rw [Sys.cycStep_report hc hph]
      refine h.finishCycleP cs.kept cs.buf cs.buf2 (fun w => ?_)
      rw [hc, cycW, hwf (.inr hph)]; simp
    · obtain ⟨cs', t, q, ph, e, hr, hp, hw'⟩ := Sys.cycStep_drain hc hph
      rw [e]
      refine (h.logDrained t q).withCyc cs' (fun w => ?_) (hw' fun h2 => hwf (.inl h2))
      show _ = cycW w s.cyc s.rxs
      rw [hc, cycW_some, cycW_some, hr.weight w, wsum_perm w hp, wsum_append]
      exact (Nat.add_assoc ..).symm.trans (Nat.add_right_comm ..)

theorem ChanInv.cycle {s : Sys} (h : ChanInv s) (hc : s.cyc = none) : ChanInv s.cycle.1 := by
  have h' := h.withG_side { s.g with drainedBy := (drainAllTagged s.rxs).reverse ++ s.g.drainedBy } rfl rfl rfl rfl
  refine h'.finishCycleP (drainAll s.rxs).1 (drainAll s.rxs).2 [] (fun w => ?_)
  show cycW w s.cyc s.rxs = _
  rw [hc]
  exact drainAll_w w s.rxs

theorem exec_chan (s : Sys) (t : Nat) (op : Op) (h : ChanInv s) : ChanInv (exec s t op).1 :=
  exec_inv t op h (fun _ st => st.chan h) (fun _ _ => ⟨h.cons, h.sig, h.wf, h.lost⟩) h.cycle h.cycBegin h.cycStep

theorem run_chan (p : Program) (s : Sys) (h : ChanInv s) : ChanInv (run s p).1 :=
  run_inv p (fun s t op _ => exec_chan s t op) s h

end Fastrace
