import FastraceModel.Lemmas.Threads

/-!
A program that never installs a reporter: every span is a no-op, no scope carries a token,
nothing is ever sent, no span-handle closure runs, nothing is reported (C16, enable half,
"created before a reporter is installed").  The invariant `NoRep` says there are no tokens at all
(`noRep_iff`: `Toks` at the predicate `False`), so `exec_toks` carries it through every operation of a thread.
-/
namespace Fastrace

/-- no reporter has been installed: every span handle is a no-op and no scope has a token -/
structure NoRep (s : Sys) : Prop where
  ready : s.reporterReady = false
  has : s.coll.hasReporter = false
  spans : ∀ e ∈ s.spans, e.2 = none
  ads : ∀ e ∈ s.adapters, ∀ sv, e.2.span = some sv → sv = none
  lines : ∀ t, StackAll (· = none) (s.th t).stack

theorem tokClosed_false : TokClosed (fun _ => False) where
  map _ _ h := h
  flatten _ h hne := hne (List.flatten_eq_nil_iff.mpr fun tok htok => (h tok htok).resolve_right id)
  head h _ _ _ := h

theorem noRep_iff {s : Sys} :
    NoRep s ↔ s.reporterReady = false ∧ s.coll.hasReporter = false ∧ Toks (fun _ => False) s := by
  have sv : ∀ sv : SpanVal, SvQ (fun _ => False) sv ↔ sv = none := fun sv => by
    cases sv with
    | none => exact ⟨fun _ => rfl, fun _ _ e => nomatch e⟩
    | some sp => exact ⟨fun h => (h sp rfl).elim, fun e => nomatch e⟩
  have ln : ∀ o : Option Token, LineQ (fun _ => False) o ↔ o = none := fun o => by
    cases o with
    | none => exact ⟨fun _ => rfl, fun _ _ e => nomatch e⟩
    | some tok => exact ⟨fun h => (h tok rfl).elim, fun e => nomatch e⟩
  exact ⟨fun h => ⟨h.ready, h.has, fun e he => (sv _).mpr (h.spans e he), fun e he v hv => (sv _).mpr (h.ads e he v hv),
      fun t l hl => (ln _).mpr (h.lines t l hl)⟩,
    fun ⟨h1, h2, ht⟩ => ⟨h1, h2, fun e he => (sv _).mp (ht.spans e he), fun e he v hv => (sv _).mp (ht.adapters e he v hv),
      fun t l hl => (ln _).mp (ht.lines t l hl)⟩⟩

theorem NoRep.init : NoRep Sys.init := noRep_iff.mpr ⟨rfl, rfl, .init⟩

theorem NoRep.register {s s' : Sys} (h : NoRep s) (t : Nat) (hr : s.register t = some s') : NoRep s' := by
  obtain ⟨h1, h2, ht⟩ := noRep_iff.mp h
  have hu := Sys.register_untouched hr
  exact noRep_iff.mpr ⟨hu.ready ▸ h1, hu.coll ▸ h2, ht.untouched hu⟩

theorem NoRep.finishCycle {s : Sys} (h : NoRep s) (kept : List (Nat × Ring Cmd)) (buf buf2 : List Cmd) :
    NoRep (s.finishCycle kept buf buf2).1 ∧ (s.finishCycle kept buf buf2).2 = none := by
  rw [Sys.finishCycle_off h.has]
  exact ⟨⟨h.ready, h.has, h.spans, h.ads, h.lines⟩, rfl⟩

theorem NoRep.finishCycleP {s : Sys} (h : NoRep s) (kept : List (Nat × Ring Cmd)) (buf buf2 : List Cmd) :
    NoRep (s.finishCycleP kept buf buf2).1 ∧ (s.finishCycleP kept buf buf2).2 = none := by
  unfold Sys.finishCycleP
  rw [if_neg (by rw [h.has]; simp)]
  exact h.finishCycle kept buf buf2

theorem NoRep.withG {s : Sys} (h : NoRep s) (g : Ghost) : NoRep (s.withG g) :=
  ⟨h.ready, h.has, h.spans, h.ads, h.lines⟩

theorem NoRep.withCyc {s : Sys} (h : NoRep s) (c : Option CycState) : NoRep { s with cyc := c } :=
  ⟨h.ready, h.has, h.spans, h.ads, h.lines⟩

theorem NoRep.cycStep {s : Sys} (h : NoRep s) :
    NoRep s.cycStep.1 ∧ ∀ rs, s.cycStep.2 ≠ .report (some rs) := by
  rcases s.cycStep_cases with ⟨cs, _, e⟩ | ⟨_, _, _, e, ho⟩ <;> rw [e]
  · have := h.finishCycleP cs.kept cs.buf cs.buf2
    exact ⟨this.1, fun rs e => by simp only [Obs.report.injEq] at e; rw [this.2] at e; cases e⟩
  · exact ⟨⟨h.ready, h.has, h.spans, h.ads, h.lines⟩, fun rs e => by rcases ho with ⟨_, rfl⟩ | ⟨_, rfl⟩ <;> cases e⟩

theorem NoRep.cycBegin {s : Sys} (h : NoRep s) : NoRep s.cycBegin.1 := by
  obtain ⟨c, e⟩ := s.cycBegin_frame
  rw [e]; exact h.withCyc c

/-- what an observation may say when no reporter was ever installed -/
def InertObs (op : Op) (o : Obs) : Prop :=
  (∀ rs, o ≠ .report (some rs)) ∧ (∀ c, o ≠ .ctx (some c)) ∧ o ≠ .elapsed true ∧
  ((∃ v cl, op = .withProps v cl ∨ op = .addProps v cl) → o ≠ .closure true)

theorem inert_of {op : Op} {o : Obs} (h1 : ∀ rs, o ≠ .report (some rs)) (h2 : ∀ c, o ≠ .ctx (some c))
    (h3 : o ≠ .elapsed true) (h4 : o ≠ .closure true) : InertObs op o := ⟨h1, h2, h3, fun _ => h4⟩

theorem NoRep.dropNone {s : Sys} (h : NoRep s) (t : Nat) : NoRep (s.dropSpanVal t none) := h

/-- with no token at all, whatever would need one does not show -/
theorem ObsQ.inert {op : Op} {o : Obs} (ho : ObsQ (fun _ => False) op o) : InertObs op o :=
  ⟨fun _ => ho.report _, fun c e => (ho.ctx c e).elim fun _ h => h.1, fun e => (ho.elapsed e).elim fun _ h => h,
   fun hw e => (ho.closure hw e).elim fun _ h => h⟩

theorem inertObs_collector {op : Op} {o : Obs} (ho : (∃ r, o = .report r) ∨ (∃ p, o = .phase p) ∨ ∃ w, o = .badOp w)
    (h : ∀ rs, o ≠ .report (some rs)) : InertObs op o := by
  rcases ho with ⟨_, rfl⟩ | ⟨_, rfl⟩ | ⟨_, rfl⟩
  · exact ⟨h, fun _ e => (nomatch e), fun e => (nomatch e), fun _ e => (nomatch e)⟩
  · exact (obsQ_of_inert rfl).inert
  · exact (obsQ_of_inert rfl).inert

theorem exec_noRep (s : Sys) (t : Nat) (op : Op) (hop : ∀ c, op ≠ .setReporter c) (h : NoRep s) :
    NoRep (exec s t op).1 ∧ InertObs op (exec s t op).2 := by
  refine exec_ind (P := fun r => NoRep r.1 ∧ InertObs op r.2) s t op (hthread := fun hc => ?_)
    (hset := fun c e => absurd e (hop c)) (hbad := fun _ => ⟨h, (obsQ_of_inert rfl).inert⟩) (hcycle := fun _ => ?_)
    (hbegin := fun _ => ⟨h.cycBegin, (obsQ_of_inert rfl).inert⟩)
    (hstep := ⟨h.cycStep.1, inertObs_collector s.cycStep_obs h.cycStep.2⟩)
  · -- a thread operation: there is no reporter, so no root gets a token, and `exec_toks` keeps "no token anywhere"
    obtain ⟨h1, h2, ht⟩ := noRep_iff.mp h
    obtain ⟨hr, ho⟩ := exec_toks (t := t) tokClosed_false op hc ht (fun _ _ _ _ _ _ hr => by rw [h1] at hr; cases hr)
      (fun _ _ _ hr => by rw [h1] at hr; cases hr)
    exact ⟨noRep_iff.mpr ⟨hr.moves.config.1 ▸ h1, hr.moves.config.2 ▸ h2, hr.toks⟩, ho.inert⟩
  · have := (h.withG { s.g with drainedBy := (drainAllTagged s.rxs).reverse ++ s.g.drainedBy }).finishCycleP
      (drainAll s.rxs).1 (drainAll s.rxs).2 []
    exact ⟨this.1, inertObs_collector (.inl ⟨_, rfl⟩) fun rs e => nomatch this.2.symm.trans (Obs.report.inj e)⟩

theorem NoRep.exitThread {s : Sys} (h : NoRep s) (t : Nat) : NoRep (s.exitThread t) :=
  (exec_noRep s t .exit (fun _ e => nomatch e) h).1

theorem run_noRep (p : Program) (s : Sys)
    (hp : ∀ x ∈ p, ∀ c, x.2 ≠ .setReporter c) (h : NoRep s) :
    ∀ x ∈ p.zip (run s p).2, InertObs x.1.2 x.2 := by
  induction p generalizing s with
  | nil => exact fun x hx => nomatch hx
  | cons y rest ih =>
    obtain ⟨t, op⟩ := y
    have hy := hp (t, op) List.mem_cons_self
    have he := exec_noRep s t op hy h
    intro x hx
    simp only [run, List.zip_cons_cons, List.mem_cons] at hx
    rcases hx with rfl | hx
    · exact he.2
    · exact ih (exec s t op).1 (fun z hz => hp z (List.mem_cons_of_mem _ hz)) he.1 x hx

end Fastrace
