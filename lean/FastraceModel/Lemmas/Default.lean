import FastraceModel.Lemmas.Groups

/-! default (non-cancelable) configuration: everything drained in a cycle is reported in that
cycle, exactly once — a conservation argument over the collector's association list -/
namespace Fastrace

def allCols (active : List (Nat × Active)) : List Collection := active.flatMap (·.2.collections)

def KeysNodup (c : Coll) : Prop := c.keys.Nodup

theorem keysNodup_insert (c : Coll) (id : Nat) (a : Active) (h : KeysNodup c) : KeysNodup (c.insert id a) := by
  unfold KeysNodup
  rw [Coll.keys_insert]
  exact (List.perm_append_singleton id _).nodup_iff.mpr
    (List.nodup_cons.mpr ⟨fun m => bne_iff_ne.mp (List.mem_filter.mp m).2 rfl, h.filter _⟩)

theorem keysNodup_remove (c : Coll) (id : Nat) (h : KeysNodup c) : KeysNodup (c.remove id) := by
  unfold KeysNodup
  rw [Coll.keys_remove]
  exact h.filter _

theorem allCols_remove {c : Coll} {id : Nat} {a : Active} (hn : KeysNodup c) (hf : c.find? id = some a) :
    (allCols c.active).Perm (a.collections ++ allCols (c.remove id).active) :=
  (perm_cons_filter_ne hn hf).flatMap_right _

theorem allCols_insert (c : Coll) (id : Nat) (a : Active) :
    allCols (c.insert id a).active = allCols (c.remove id).active ++ a.collections :=
  List.flatMap_append.trans (congrArg _ (List.flatMap_singleton ..))

theorem submitItem_conserves (spans : SpanSet) (st : Coll × List Collection) (it : TokenItem) (hn : KeysNodup st.1) :
    (allCols (submitItem false spans st it).1.active ++ (submitItem false spans st it).2).Perm
      ((allCols st.1.active ++ st.2) ++ [⟨spans, it.traceId, it.parentId⟩]) ∧
    KeysNodup (submitItem false spans st it).1 := by
  unfold submitItem
  cases hf : st.1.find? it.collectId with
  | some a =>
    refine ⟨?_, keysNodup_insert _ _ _ hn⟩
    -- the entry's collections come back at the end of the list, with the new one behind them
    rw [allCols_insert, ← List.append_assoc, List.append_assoc, List.append_assoc _ st.2]
    exact ((List.perm_append_comm.trans (allCols_remove hn hf).symm).append
      List.perm_append_comm)
  | none => exact ⟨.of_eq (List.append_assoc ..).symm, hn⟩

/-- the collections a batch submits: one per (submit, token item), in drain order -/
def submitted (subs : List (SpanSet × Token)) : List Collection :=
  subs.flatMap fun sub => sub.2.map fun it => ⟨sub.1, it.traceId, it.parentId⟩

theorem foldl_grows_perm {α β γ} (m : β → List γ) (g : α → List γ) (I : β → Prop) {f : β → α → β}
    (step : ∀ b a, I b → (m (f b a)).Perm (m b ++ g a) ∧ I (f b a)) (l : List α) (b : β) (hb : I b) :
    (m (l.foldl f b)).Perm (m b ++ l.flatMap g) ∧ I (l.foldl f b) := by
  induction l generalizing b with
  | nil => simpa using hb
  | cons a l ih =>
    obtain ⟨p1, i1⟩ := step b a hb
    obtain ⟨p2, i2⟩ := ih _ i1
    rw [List.flatMap_cons, ← List.append_assoc]
    exact ⟨p2.trans (p1.append_right _), i2⟩

theorem foldl_submitItem_conserves (spans : SpanSet) (tok : Token) (st : Coll × List Collection) (hn : KeysNodup st.1) :
    (allCols (tok.foldl (submitItem false spans) st).1.active ++ (tok.foldl (submitItem false spans) st).2).Perm
      ((allCols st.1.active ++ st.2) ++ tok.map fun it => ⟨spans, it.traceId, it.parentId⟩) ∧
    KeysNodup (tok.foldl (submitItem false spans) st).1 :=
  List.map_eq_flatMap ▸ foldl_grows_perm (fun st : Coll × List Collection => allCols st.1.active ++ st.2) _
    (fun st => KeysNodup st.1) (submitItem_conserves spans) tok st hn

theorem foldl_processSubmit_conserves (subs : List (SpanSet × Token)) (st : Coll × List Collection)
    (hc : st.1.cancelable = false) (hn : KeysNodup st.1) :
    (allCols (subs.foldl processSubmit st).1.active ++ (subs.foldl processSubmit st).2).Perm
      ((allCols st.1.active ++ st.2) ++ submitted subs) ∧
    KeysNodup (subs.foldl processSubmit st).1 :=
  (foldl_grows_perm (fun st : Coll × List Collection => allCols st.1.active ++ st.2) _
    (fun st => st.1.cancelable = false ∧ KeysNodup st.1)
    (fun st s ⟨hc, hn⟩ => by
      have hc' := (congrArg Prod.fst (processSubmit_flags st s)).trans hc
      unfold processSubmit at hc' ⊢
      rw [hc] at hc' ⊢
      exact (foldl_submitItem_conserves s.1 s.2 st hn).imp_right fun n => ⟨hc', n⟩) subs st ⟨hc, hn⟩).imp_right And.right

/-- the commit loop moves groups out of the association list, nothing else -/
theorem commitGroups_conserves (c : Coll) (ids : List Nat) (conv : Nat → Nat) (recs : List Record) (hn : KeysNodup c) :
    (allCols c.active).Perm
      ((commitGroups c ids).flatMap (·.2) ++ allCols (ids.foldl (processCommit conv) (c, recs)).1.active) ∧
    KeysNodup (ids.foldl (processCommit conv) (c, recs)).1 := by
  induction ids generalizing c recs with
  | nil => exact ⟨.refl _, hn⟩
  | cons id ids ih =>
    rw [List.foldl_cons, commitGroups]
    unfold processCommit
    cases hf : c.find? id with
    | some a =>
      obtain ⟨p, n⟩ := ih (c.remove id) (postprocess conv a.collections recs a.danglings).1 (keysNodup_remove c id hn)
      refine ⟨?_, n⟩
      rw [List.flatMap_cons, List.append_assoc]
      exact (allCols_remove hn hf).trans (p.append_left _)
    | none =>
      exact ih c recs hn

theorem flushAll_default (conv : Nat → Nat) (st : Coll × List Record) (h : st.1.cancelable = false) :
    (flushAll conv st).2.map Record.core = st.2.map Record.core ++ (allCols st.1.active).flatMap (collectionCores conv) ∧
    allCols (flushAll conv st).1.active = [] := by
  rw [flushAll, if_neg (Bool.eq_false_iff.mp h)]
  exact ⟨(foldl_grows (fun f : List (Nat × Active) × List Record => f.2.map Record.core) _
      (fun f e => postprocess_core conv e.2.collections f.2 e.2.danglings) _ _).trans (by rw [allCols, List.flatMap_assoc]),
    foldl_proj (fun f : List (Nat × Active) × List Record => allCols f.1) (f := flushActive conv)
      (fun f e => List.flatMap_append.trans (List.append_nil _)) _ _⟩

theorem reportStale_core (conv : Nat → Nat) (stale : List Collection) (recs : List Record) :
    (reportStale conv stale recs).map Record.core = recs.map Record.core ++ stale.flatMap (collectionCores conv) :=
  foldl_grows (List.map Record.core) _ (fun recs col => by rw [postprocess_core, List.flatMap_singleton]) _ _

theorem keysNodup_phaseStarts (c : Coll) (batch : List Cmd) (hn : KeysNodup c) : KeysNodup (phaseStarts c batch) :=
  List.foldlRecOn (motive := KeysNodup) _ _ hn fun c h id _ => keysNodup_insert c id _ h

/-- **default configuration, any state with distinct keys**: the report is what was held (after
    this batch's starts, which reset a restarted id) and what was submitted, each once; nothing
    stays buffered -/
theorem default_cycle_report (conv : Nat → Nat) (c : Coll) (batch : List Cmd)
    (hr : c.hasReporter = true) (hc : c.cancelable = false) (hn : KeysNodup c) :
    ∃ recs, (cycleProcess conv c batch).2 = some recs ∧
      (recs.map Record.core).Perm
        ((allCols (phaseStarts c batch).active ++ submitted (submitsOf batch)).flatMap (collectionCores conv)) ∧
      allCols (cycleProcess conv c batch).1.active = [] ∧ KeysNodup (cycleProcess conv c batch).1 := by
  rw [cycleProcess_eq conv c batch hr]
  obtain ⟨p2, n2⟩ : (allCols (afterSubmits c batch).1.active ++ (afterSubmits c batch).2).Perm
      (allCols (phaseStarts c batch).active ++ submitted (submitsOf batch)) ∧ KeysNodup (afterSubmits c batch).1 := by
    unfold afterSubmits
    rw [phaseDrops_default _ batch ((phaseStarts_cancelable c batch).trans hc)]
    simpa only [List.append_nil] using foldl_processSubmit_conserves (submitsOf batch) (phaseStarts c batch, [])
      ((phaseStarts_cancelable c batch).trans hc) (keysNodup_phaseStarts c batch hn)
  obtain ⟨p3, n3⟩ := commitGroups_conserves (afterSubmits c batch).1 (commitsOf batch) conv [] n2
  obtain ⟨r4, a4⟩ := flushAll_default conv (afterCommits conv c batch)
    ((congrArg Prod.fst (afterCommits_flags conv c batch)).trans hc)
  refine ⟨_, rfl, ?_, a4, by unfold KeysNodup; rw [flushAll_keys]; exact n3⟩
  -- cores of the report = cores of (committed groups ++ flushed ++ stale)
  rw [reportStale_core, r4, afterCommits, foldl_processCommit_records, List.map_nil, List.nil_append,
    ← List.flatMap_assoc, ← List.flatMap_append, ← List.flatMap_append]
  exact ((p3.symm.append_right _).trans p2).flatMap_right _

end Fastrace
