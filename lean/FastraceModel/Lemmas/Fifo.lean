import FastraceModel.Lemmas.Rings

/-!
Per-thread order (C09: "finish and cancel signals are neither dropped nor reordered while the
thread lives"; C04: a cancel is consumed no later than the commit sent after it by the same
thread): for every live thread `t`, in every reachable state,

    what t's channel accepted, in order
      = what the collector has popped from t's ring, in order ++ t's ring ++ t's overflow list.

The history variables `acceptedBy` / `drainedBy` tag each command with its thread (newest first).
This file: the invariant, what a collector step does to one thread's ring (`RingsStep.lookup`), and how the
invariant moves along any change (`FifoInv.step`): in particular along one that keeps every lookup
(`FifoInv.of_lookup`) and along a drain step (`FifoInv.drain`).
-/
namespace Fastrace

def byT (t : Nat) (l : List (Nat × Cmd)) : List Cmd := (l.filter (fun e => e.1 == t)).map (·.2)

@[simp] theorem byT_nil (t : Nat) : byT t [] = [] := rfl
theorem byT_cons_same (t : Nat) (c : Cmd) (l : List (Nat × Cmd)) : byT t ((t, c) :: l) = c :: byT t l := by
  unfold byT; rw [List.filter_cons, if_pos (beq_self_eq_true t)]; rfl
theorem byT_cons_other (t t2 : Nat) (c : Cmd) (l : List (Nat × Cmd)) (h : t2 ≠ t) : byT t ((t2, c) :: l) = byT t l := by
  unfold byT; rw [List.filter_cons, if_neg (by rw [beq_iff_eq]; exact h)]
theorem byT_append (t : Nat) (a b : List (Nat × Cmd)) : byT t (a ++ b) = byT t a ++ byT t b := by
  unfold byT; rw [List.filter_append, List.map_append]
theorem byT_tagged (t t2 : Nat) (q : List Cmd) : byT t2 (q.map fun c => (t, c)) = if t2 = t then q else [] := by
  induction q with
  | nil => exact (ite_self _).symm
  | cons x xs ih =>
    rw [List.map_cons]
    by_cases e : t2 = t
    · subst e; rw [byT_cons_same, ih, if_pos rfl, if_pos rfl]
    · rw [byT_cons_other _ _ _ _ (Ne.symm e), ih, if_neg e, if_neg e]
theorem byT_reverse (t : Nat) (l : List (Nat × Cmd)) : byT t l.reverse = (byT t l).reverse := by
  unfold byT; rw [List.filter_reverse, List.map_reverse]

/-- the ring of thread `t` as a sequence (empty if the thread has no registered ring) -/
def Sys.ringQ (s : Sys) (t : Nat) : List Cmd := ((s.ringOf t).map (·.q)).getD []

/-- the threads that have a ring, wherever the rings currently are -/
def Sys.ringKeys (s : Sys) : List Nat :=
  match s.cyc with
  | none => s.rxs.map (·.1)
  | some cs => (cs.todo ++ cs.kept).map (·.1)

/-- `order` is the statement; `nodup` (one receiver per thread) makes "thread `t`'s ring" well defined, and `reg` (only
    a registered thread has a receiver) is what shows that a thread registering now has none yet -/
structure FifoInv (s : Sys) : Prop where
  order : ∀ t, (s.th t).alive = true →
    (byT t s.g.acceptedBy).reverse = (byT t s.g.drainedBy).reverse ++ s.ringQ t ++ (s.th t).pending
  nodup : s.ringKeys.Nodup
  reg : ∀ t ∈ s.ringKeys, (s.th t).registered = true

theorem Sys.ringOf_withG (s : Sys) (g : Ghost) (t2 : Nat) : (s.withG g).ringOf t2 = s.ringOf t2 := rfl

/-- the content of the ring found under `t` (empty if there is none) -/
def ringsQ (l : List (Nat × Ring Cmd)) (t : Nat) : List Cmd := ((natGet l t).map (·.q)).getD []

theorem Sys.ringQ_eq (s : Sys) (t : Nat) : s.ringQ t = ringsQ s.rings t := by
  unfold Sys.ringQ ringsQ; rw [Sys.ringOf_eq]

theorem Sys.ringKeys_eq (s : Sys) : s.ringKeys = s.rings.map (·.1) := by
  unfold Sys.ringKeys Sys.rings; cases s.cyc <;> rfl

theorem ringsQ_mid {l1 : List (Nat × Ring Cmd)} {k : Nat} (h : k ∉ l1.map (·.1)) (r : Ring Cmd) (l2 : List (Nat × Ring Cmd)) (k2 : Nat) :
    ringsQ (l1 ++ (k, r) :: l2) k2 = if k2 = k then r.q else ringsQ (l1 ++ l2) k2 := by
  unfold ringsQ
  rw [natGet_append, natGet_append, natGet_cons]
  by_cases e : k2 = k
  · rw [if_pos e.symm, if_pos e, e, (natGet_eq_none_iff l1 k).mpr h]; rfl
  · rw [if_neg (Ne.symm e), if_neg e]

theorem ringsQ_cons (k : Nat) (r : Ring Cmd) (l : List (Nat × Ring Cmd)) (k2 : Nat) :
    ringsQ ((k, r) :: l) k2 = if k2 = k then r.q else ringsQ l k2 :=
  ringsQ_mid (l1 := []) List.not_mem_nil r l k2

theorem ringsQ_of_notin {l : List (Nat × Ring Cmd)} {k : Nat} (h : k ∉ l.map (·.1)) : ringsQ l k = [] := by
  rw [ringsQ, (natGet_eq_none_iff l k).mpr h]; rfl

theorem RingsStep.lookup {t : Nat} {l l' : List (Nat × Ring Cmd)} {q : List Cmd} (h : RingsStep t l q l')
    (hn : (l.map (·.1)).Nodup) (t2 : Nat) : ringsQ l t2 = (if t2 = t then q else []) ++ ringsQ l' t2 := by
  cases h with
  | pop l1 r l2 =>
    have hn1 : t ∉ l1.map (·.1) := fun hm => by
      rw [List.map_append, List.nodup_append] at hn
      exact hn.2.2 t hm t List.mem_cons_self rfl
    rw [ringsQ_mid hn1, ringsQ_mid hn1]
    by_cases e : t2 = t
    · rw [if_pos e, if_pos e, if_pos e]; exact (List.append_nil _).symm
    · rw [if_neg e, if_neg e, if_neg e]; rfl
  | rotate r l =>
    have e2 := ringsQ_mid (List.nodup_cons.mp hn).1 r [] t2
    rw [List.append_nil] at e2
    rw [ringsQ_cons, e2, ite_self]
    rfl
  | drop r _ hq =>
    rw [ringsQ_cons, hq, ite_self]
    by_cases e : t2 = t
    · rw [if_pos e, e, ringsQ_of_notin (List.nodup_cons.mp hn).1]; rfl
    · rw [if_neg e]; rfl
  | same l => rw [ite_self]; rfl

theorem RingsStep.keys {t : Nat} {l l' : List (Nat × Ring Cmd)} {q : List Cmd} (h : RingsStep t l q l')
    (hn : (l.map (·.1)).Nodup) : (l'.map (·.1)).Nodup ∧ ∀ k ∈ l'.map (·.1), k ∈ l.map (·.1) := by
  cases h with
  | pop l1 r l2 =>
    have e : (l1 ++ (t, { r with q := [] }) :: l2).map (·.1) = (l1 ++ (t, r) :: l2).map (·.1) := by
      rw [List.map_append, List.map_append]; rfl
    rw [e]; exact ⟨hn, fun _ hk => hk⟩
  | rotate r l =>
    have p : ((l ++ [(t, r)]).map (·.1)).Perm (((t, r) :: l).map (·.1)) := (List.perm_append_singleton _ _).map _
    exact ⟨p.symm.nodup hn, fun _ hk => p.subset hk⟩
  | drop r _ _ => exact ⟨(List.nodup_cons.mp hn).2, fun k hk => List.mem_cons_of_mem _ hk⟩
  | same _ => exact ⟨hn, fun _ hk => hk⟩

theorem FifoInv.nodup' {s : Sys} (h : FifoInv s) : (s.rings.map (·.1)).Nodup := s.ringKeys_eq ▸ h.nodup

theorem FifoInv.reg' {s : Sys} (h : FifoInv s) {t : Nat} (ht : t ∈ s.rings.map (·.1)) : (s.th t).registered = true :=
  h.reg t (s.ringKeys_eq ▸ ht)

/-- How the invariant moves along any change.  The logs grow by `A` (accepted) and `D` (popped), both oldest first; for
    every thread alive afterwards, what was popped from it, its ring and its overflow list are together what its ring and
    its overflow list were, followed by what its channel accepted. -/
theorem FifoInv.step {s s' : Sys} (h : FifoInv s) (A D : List (Nat × Cmd))
    (ha : s'.g.acceptedBy = A.reverse ++ s.g.acceptedBy) (hd : s'.g.drainedBy = D.reverse ++ s.g.drainedBy)
    (hq : ∀ t, (s'.th t).alive = true → (s.th t).alive = true ∧
      byT t D ++ ringsQ s'.rings t ++ (s'.th t).pending = ringsQ s.rings t ++ (s.th t).pending ++ byT t A)
    (hn : (s'.rings.map (·.1)).Nodup) (hreg : ∀ t ∈ s'.rings.map (·.1), (s'.th t).registered = true) : FifoInv s' := by
  refine ⟨fun t hal => ?_, s'.ringKeys_eq ▸ hn, fun t ht => hreg t (s'.ringKeys_eq ▸ ht)⟩
  obtain ⟨hal0, e⟩ := hq t hal
  rw [ha, hd, byT_append, byT_append, byT_reverse, byT_reverse, List.reverse_append, List.reverse_append,
    List.reverse_reverse, List.reverse_reverse, h.order t hal0, Sys.ringQ_eq, Sys.ringQ_eq]
  simp only [List.append_assoc] at e ⊢
  rw [e]

/-- the receivers (looked up by thread), the threads and the two logs are what `FifoInv` reads -/
theorem FifoInv.of_lookup {s s' : Sys} (h : FifoInv s) (hq : ∀ t, natGet s'.rings t = natGet s.rings t)
    (hk : s'.rings.map (·.1) = s.rings.map (·.1)) (hth : ∀ t, s'.th t = s.th t)
    (ha : s'.g.acceptedBy = s.g.acceptedBy) (hd : s'.g.drainedBy = s.g.drainedBy) : FifoInv s' :=
  h.step [] [] ha hd (fun t hal => by rw [hth] at hal ⊢; exact ⟨hal, by rw [ringsQ, hq, byT_nil, List.append_nil]; rfl⟩)
    (hk ▸ h.nodup') (fun t ht => by rw [hth]; exact h.reg' (hk ▸ ht))

theorem FifoInv.of_same {s s' : Sys} (h : FifoInv s) (hr : s'.rings = s.rings) (hth : s'.threads = s.threads)
    (ha : s'.g.acceptedBy = s.g.acceptedBy) (hd : s'.g.drainedBy = s.g.drainedBy) : FifoInv s' :=
  h.of_lookup (fun _ => by rw [hr]) (by rw [hr]) (Sys.th_congr hth) ha hd

theorem FifoInv.drain {s s' : Sys} (h : FifoInv s) {t : Nat} {q : List Cmd} (hr : RingsStep t s.rings q s'.rings)
    (hth : s'.threads = s.threads) (ha : s'.g.acceptedBy = s.g.acceptedBy)
    (hd : s'.g.drainedBy = (q.map fun c => (t, c)).reverse ++ s.g.drainedBy) : FifoInv s' := by
  have hk := hr.keys h.nodup'
  refine h.step [] (q.map fun c => (t, c)) ha hd (fun t2 hal => ?_) hk.1 fun t2 ht => Sys.th_congr hth t2 ▸ h.reg' (hk.2 t2 ht)
  rw [Sys.th_congr hth] at hal ⊢
  exact ⟨hal, by rw [hr.lookup h.nodup' t2, byT_tagged, byT_nil, List.append_nil]⟩

end Fastrace
