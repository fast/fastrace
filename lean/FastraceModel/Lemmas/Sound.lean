import FastraceModel.Lemmas.Default

/-!
Nothing is invented, in either configuration: if every buffered collection and every collection
submitted in the batch satisfies `P`, then after the cycle every buffered collection still
does, and every record of the report is a record of a collection satisfying `P`.
(Instances: `(·.traceId ∈ T)` for provenance, `Lemmas/ProvColl.lean`; "is a copy of a span set the processing loops
were handed", `Consumed`, `Props/E2E.lean`.)
-/
namespace Fastrace

def ColsIn (P : Collection → Prop) (c : Coll) : Prop := ∀ col ∈ allCols c.active, P col

def RecsFrom (conv : Nat → Nat) (P : Collection → Prop) (recs : List Record) : Prop :=
  ∀ k ∈ recs.map Record.core, ∃ col, P col ∧ k ∈ collectionCores conv col

theorem mem_allCols {active : List (Nat × Active)} {col : Collection} :
    col ∈ allCols active ↔ ∃ e ∈ active, col ∈ e.2.collections := List.mem_flatMap

theorem ColsIn.insert {P : Collection → Prop} {c : Coll} (h : ColsIn P c) (id : Nat) (a : Active)
    (ha : ∀ col ∈ a.collections, P col) : ColsIn P (c.insert id a) := by
  intro col hcol
  obtain ⟨e, he, hc⟩ := mem_allCols.mp hcol
  simp only [Coll.insert, List.mem_append, List.mem_filter, List.mem_singleton] at he
  rcases he with he | rfl
  · exact h col (mem_allCols.mpr ⟨e, he.1, hc⟩)
  · exact ha col hc

theorem ColsIn.remove {P : Collection → Prop} {c : Coll} (h : ColsIn P c) (id : Nat) : ColsIn P (c.remove id) := by
  intro col hcol
  obtain ⟨e, he, hc⟩ := mem_allCols.mp hcol
  simp only [Coll.remove, List.mem_filter] at he
  exact h col (mem_allCols.mpr ⟨e, he.1, hc⟩)

theorem ColsIn.find {P : Collection → Prop} {c : Coll} (h : ColsIn P c) {id : Nat} {a : Active}
    (hf : c.find? id = some a) : ∀ col ∈ a.collections, P col := by
  intro col hc
  exact h col (mem_allCols.mpr ⟨(id, a), Coll.find?_some_mem c id a hf, hc⟩)

/-- the state of the submit loop: what is buffered and what is stale satisfies `P` -/
def SubIn (P : Collection → Prop) (st : Coll × List Collection) : Prop := ColsIn P st.1 ∧ ∀ col ∈ st.2, P col

/-- the state of the commit loop and of the flush: what is buffered satisfies `P`, the records come from such -/
def ComIn (conv : Nat → Nat) (P : Collection → Prop) (st : Coll × List Record) : Prop :=
  ColsIn P st.1 ∧ RecsFrom conv P st.2

theorem submitItem_sound {P : Collection → Prop} (cb : Bool) (spans : SpanSet) (st : Coll × List Collection)
    (it : TokenItem) (h : SubIn P st) (hp : P ⟨spans, it.traceId, it.parentId⟩) : SubIn P (submitItem cb spans st it) := by
  unfold submitItem
  cases hf : st.1.find? it.collectId with
  | some a => exact ⟨h.1.insert _ _ (List.forall_mem_append.mpr ⟨h.1.find hf, List.forall_mem_singleton.mpr hp⟩), h.2⟩
  | none =>
    cases cb
    · exact ⟨h.1, List.forall_mem_append.mpr ⟨h.2, List.forall_mem_singleton.mpr hp⟩⟩
    · exact h

theorem mem_submitted {subs : List (SpanSet × Token)} {sub : SpanSet × Token} {it : TokenItem} (hs : sub ∈ subs)
    (hit : it ∈ sub.2) : (⟨sub.1, it.traceId, it.parentId⟩ : Collection) ∈ submitted subs :=
  List.mem_flatMap.mpr ⟨sub, hs, List.mem_map.mpr ⟨it, hit, rfl⟩⟩

theorem phaseStarts_colsIn {P : Collection → Prop} (c : Coll) (batch : List Cmd) (h : ColsIn P c) :
    ColsIn P (phaseStarts c batch) :=
  List.foldlRecOn (motive := ColsIn P) _ _ h fun _ h id _ => h.insert id _ (fun _ h => absurd h List.not_mem_nil)

theorem afterSubmits_sound {P : Collection → Prop} (c : Coll) (batch : List Cmd) (h : ColsIn P c)
    (hp : ∀ col ∈ submitted (submitsOf batch), P col) : SubIn P (afterSubmits c batch) := by
  have c1 : ColsIn P (phaseDrops (phaseStarts c batch) batch) :=
    List.foldlRecOn (motive := ColsIn P) _ _ (phaseStarts_colsIn c batch h) fun c h id _ =>
      iteInduction (fun _ => h.remove id) fun _ => h
  exact List.foldlRecOn (motive := SubIn P) _ _ ⟨c1, fun _ h => absurd h List.not_mem_nil⟩ fun st h sub hs =>
    List.foldlRecOn (motive := SubIn P) sub.2 _ h fun st h it hit =>
      submitItem_sound _ _ st it h (hp _ (mem_submitted hs hit))

theorem recsFrom_append {conv : Nat → Nat} {P : Collection → Prop} {recs : List Record} {cols : List Collection}
    {recs' : List Record} (h : RecsFrom conv P recs) (hc : ∀ col ∈ cols, P col)
    (e : recs'.map Record.core = recs.map Record.core ++ cols.flatMap (collectionCores conv)) : RecsFrom conv P recs' := by
  intro k hk
  rw [e, List.mem_append] at hk
  rcases hk with hk | hk
  · exact h k hk
  · obtain ⟨col, hcol, hk⟩ := List.mem_flatMap.mp hk
    exact ⟨col, hc col hcol, hk⟩

theorem processCommit_sound {P : Collection → Prop} (conv : Nat → Nat) (st : Coll × List Record) (id : Nat)
    (h : ComIn conv P st) : ComIn conv P (processCommit conv st id) := by
  unfold processCommit
  cases hf : st.1.find? id with
  | some a =>
    exact ⟨h.1.remove id, recsFrom_append h.2 (h.1.find hf) (postprocess_core conv a.collections st.2 a.danglings)⟩
  | none => exact h

theorem flushAll_sound {P : Collection → Prop} (conv : Nat → Nat) (st : Coll × List Record) (h : ComIn conv P st) :
    ComIn conv P (flushAll conv st) := by
  cases hc : st.1.cancelable with
  | true => rwa [flushAll_cancelable conv st hc]
  | false =>
    obtain ⟨r, a⟩ := flushAll_default conv st hc
    exact ⟨fun col hcol => absurd (a ▸ hcol) List.not_mem_nil, recsFrom_append h.2 h.1 r⟩

theorem cycle_sound {P : Collection → Prop} (conv : Nat → Nat) (c : Coll) (batch : List Cmd)
    (h1 : ColsIn P c) (hp : ∀ col ∈ submitted (submitsOf batch), P col) :
    ColsIn P (cycleProcess conv c batch).1 ∧
    ∀ recs, (cycleProcess conv c batch).2 = some recs → RecsFrom conv P recs := by
  cases hr : c.hasReporter with
  | false => rw [cycleProcess_off conv c batch hr]; exact ⟨h1, fun _ e => absurd e.symm (Option.some_ne_none _)⟩
  | true =>
    rw [cycleProcess_eq conv c batch hr]
    have s2 := afterSubmits_sound c batch h1 hp
    have s4 : ComIn conv P (flushAll conv (afterCommits conv c batch)) :=
      flushAll_sound conv _ (List.foldlRecOn (motive := ComIn conv P) _ _ ⟨s2.1, fun _ h => absurd h List.not_mem_nil⟩
        fun st h id _ => processCommit_sound conv st id h)
    exact ⟨s4.1, fun recs e => Option.some.inj e ▸ recsFrom_append s4.2 s2.2 (reportStale_core conv _ _)⟩

end Fastrace
