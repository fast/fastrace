import FastraceModel.Lemmas.Groups
import FastraceModel.Lemmas.Threads

/-!
# C04 — a cancel parked on a full queue still counts (D21 repair)

`cancel()` on a thread whose command queue is full cannot put its signal into the queue: the
signal waits in that thread's overflow list, which the collector cannot see, while the root may
finish on another thread and send its commit through that thread's queue.  Since the repair,
`drop_collect` leaves a note in `PARKED_CANCELS` (`Sys.parkedCancels`) whenever `force_send`
reports that the signal was parked, and the collector looks there for every commit it is about to
handle (`Sys.finishCycleP`, `takeParked`).

`C04_parked_cancel_suppresses`: for **every** system state, every drain result and every trace
`cid` — cancelable collector, `cid` noted in `PARKED_CANCELS`, and the commit of `cid` among the
commits this cycle handles (deferred from the previous cycle or popped in the first pass) — the
cycle emits nothing for `cid`, does not retain it, and the note is consumed.
-/
namespace Fastrace

/-- the collector only makes up cancels for traces that are noted and committed in this cycle -/
theorem takeParked_sub (commits : List Nat) : ∀ (parked : List Nat) (id : Nat),
    id ∈ (takeParked commits parked).1 → id ∈ commits ∧ id ∈ parked :=
  fun parked id => (mem_takeParked commits parked id).1.mp

theorem startsOf_cons_start (id : Nat) (l : List Cmd) : startsOf (.start id :: l) = id :: startsOf l := rfl
theorem startsOf_cons_commit (id : Nat) (l : List Cmd) : startsOf (.commit id :: l) = startsOf l := rfl
theorem dropsOf_appendP (a b : List Cmd) : dropsOf (a ++ b) = dropsOf a ++ dropsOf b := List.filterMap_append

/-- **D21 repair**: a trace whose cancel is parked on the thread that called `cancel()` and whose
    commit is handled in this cycle is suppressed: the cycle emits nothing for it, does not
    retain it, and the note is consumed -/
theorem C04_parked_cancel_suppresses (s : Sys) (kept : List (Nat × Ring Cmd)) (buf buf2 : List Cmd) (cid : Nat)
    (hr : s.coll.hasReporter = true) (hc : s.coll.cancelable = true)
    (hp : cid ∈ s.parkedCancels) (hcm : cid ∈ s.deferred ++ commitsOf buf) :
    ∃ batch, (s.finishCycleP kept buf buf2).2 = (cycleProcess id s.coll batch).2 ∧
      (s.finishCycleP kept buf buf2).1.coll = (cycleProcess id s.coll batch).1 ∧
      (∀ g ∈ commitGroups (afterSubmits s.coll batch).1 (commitsOf batch), g.1 ≠ cid) ∧
      cid ∉ (cycleProcess id s.coll batch).1.keys ∧
      cid ∉ (s.finishCycleP kept buf buf2).1.parkedCancels := by
  obtain ⟨e1, e2, e3⟩ := s.finishCycleP_on kept buf buf2 hr
  obtain ⟨hinj, hrest⟩ := mem_takeParked (s.deferred ++ commitsOf buf) s.parkedCancels cid
  have hnote : cid ∉ (s.finishCycleP kept buf buf2).1.parkedCancels := e3 ▸ fun h => (hrest.mp h).2 hcm
  have hdrop : Cmd.drop cid ∈ buf2 ++ (takeParked (s.deferred ++ commitsOf buf) s.parkedCancels).1.map Cmd.drop :=
    List.mem_append_right _ (List.mem_map.mpr ⟨cid, hinj.mpr ⟨hcm, hp⟩, rfl⟩)
  generalize buf2 ++ (takeParked (s.deferred ++ commitsOf buf) s.parkedCancels).1.map Cmd.drop = b2 at hdrop e1 e2
  -- were `cid` active after the submit loop, it would be known to `c1` of `cycleSplit` (it was active or is
  -- started), so `splitSecond` would let the injected cancel through, and the drop loop would have removed it
  have hsup := suppressed_of_not_active id s.coll (s.cycleBatch buf b2) hr cid fun h => by
    obtain ⟨hact, hnd⟩ := (afterSubmits_keys s.coll _ cid).mp h
    rw [startsOf_cycleBatch, ← phaseStarts_keys, ← Coll.known_iff] at hact
    refine hnd hc ((mem_dropsOf ..).mpr (List.mem_append_right _ ?_))
    unfold Sys.cycleSplit
    rw [splitSecond_eq]
    exact drop_mem_splitSide.mpr ⟨hdrop, hact⟩
  exact ⟨_, e1, e2, hsup.1, hsup.2, hnote⟩

/-- `cancel()` on a root: when the call returns, either nothing is parked on the calling thread
    (the cancel signal is in its queue, or already popped: `Fifo_per_thread_order`) or the trace
    is noted in `PARKED_CANCELS` -/
theorem C04_cancel_in_queue_or_noted (s : Sys) (t : Nat) (v : String) (sp : SpanInner) (cid : Nat)
    (hv : assocGet s.spans v = some (some sp)) (hid : sp.collectId = some cid) :
    (((exec s t (.cancel v)).1.th t).pending = [] ∨ cid ∈ (exec s t (.cancel v)).1.parkedCancels) := by
  have e : exec s t (.cancel v) = ((s.sendCmd t (.drop cid) true).noteParked t cid, .ok) := by
    dsimp only [exec]; rw [hv]; dsimp only; rw [hid]
  rw [e, Sys.noteParked_th]
  by_cases h : ((s.sendCmd t (.drop cid) true).th t).pending = []
  · exact .inl h
  · exact .inr ((Sys.mem_noteParked _ t cid cid).mpr (.inr ⟨h, rfl⟩))

/-- the collector never adds a note: after processing, every note left was there before, and none of them belongs to a
    trace whose commit this cycle handled (C08: the notes are bounded by the cancelled traces still in flight) -/
theorem C08_notes_only_shrink_in_cycles (s : Sys) (kept : List (Nat × Ring Cmd)) (buf buf2 : List Cmd) :
    ∀ id ∈ (s.finishCycleP kept buf buf2).1.parkedCancels,
      id ∈ s.parkedCancels ∧ (s.coll.hasReporter = true → id ∉ s.deferred ++ commitsOf buf) := by
  intro id hid
  cases hr : s.coll.hasReporter with
  | true =>
    rw [(s.finishCycleP_on kept buf buf2 hr).2.2] at hid
    exact ⟨((mem_takeParked _ _ id).2.mp hid).1, fun _ => ((mem_takeParked _ _ id).2.mp hid).2⟩
  | false =>
    unfold Sys.finishCycleP at hid
    rw [hr] at hid
    exact ⟨hid, fun e => absurd e Bool.false_ne_true⟩

/-- `cancel()` adds at most the note of the trace it cancels -/
theorem C08_cancel_notes_only_its_trace (s : Sys) (t cid : Nat) :
    ∀ id ∈ (s.noteParked t cid).parkedCancels, id ∈ s.parkedCancels ∨ id = cid :=
  fun id hid => ((Sys.mem_noteParked s t cid id).mp hid).imp_right And.right

/-! ### non-vacuity: the D21 witness at the model level -/

/-- a state in which trace 0 is active, its cancel is noted as parked, and its commit arrives -/
def parkedDemo : Sys :=
  { Sys.init with
    coll := { cancelable := true, hasReporter := true, active := [(0, Active.empty)] },
    parkedCancels := [0] }

example : (parkedDemo.finishCycleP [] [.commit 0] []).2 = some [] := rfl
example : (parkedDemo.finishCycleP [] [.commit 0] []).1.parkedCancels = [] := rfl
example : (parkedDemo.finishCycleP [] [.commit 0] []).1.coll.keys = [] := rfl
/-- … and without the note the trace would be reported (here: an empty trace, an empty report, but the entry is
    removed by the commit, not by a cancel) -/
example : ({ parkedDemo with parkedCancels := [] }.finishCycleP [] [.commit 0] []).1.g.injected = [] := rfl
example : (parkedDemo.finishCycleP [] [.commit 0] []).1.g.injected = [0] := rfl

end Fastrace
