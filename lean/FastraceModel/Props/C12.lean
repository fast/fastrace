import FastraceModel.Lemmas.Codec

/-!
# C12 — traceparent and id text codecs round-trip and never panic

Statements only (helper lemmas live in `Lemmas/Codec.lean`).  All model functions are total,
which is the model-side reading of "never panics"; the implementation side of that clause is
checked by the correspondence harness under `catch_unwind`.
-/
namespace Fastrace

/-- a context whose fields fit their Rust types -/
def SpanContext.WF (c : SpanContext) : Prop := c.traceId < 2 ^ 128 ∧ c.spanId < 2 ^ 64

/-- **round trip**: for every context (all 2^128 × 2^64 × 2), decoding the encoding gives it
    back. -/
theorem C12_decode_encode (c : SpanContext) (h : c.WF) :
    decodeTraceparent (encodeTraceparent c) = some c := by
  obtain ⟨t, s, b⟩ := c
  obtain ⟨ht, hs⟩ := h
  rw [decodeTraceparent, encodeTraceparent, splitOn_append, splitOn_append, splitOn_append,
    splitOn_no_sep dash ['0', '0'] (by decide), splitOn_no_sep dash _ (toHexFixed_no_dash 32 _),
    splitOn_no_sep dash _ (toHexFixed_no_dash 16 _), splitOn_no_sep dash _ (toHexFixed_no_dash 2 _)]
  simp only [List.cons_append, List.nil_append, if_true, parseRadix16_toHexFixed 128 32 t (by decide) ht (by decide),
    parseRadix16_toHexFixed 64 16 s (by decide) hs (by decide),
    parseRadix16_toHexFixed 8 2 (if b then 1 else 0) (by decide) (by cases b <;> decide) (by decide)]
  cases b <;> rfl

/-- **fixed shape**: 55 characters, `00-` + 32 + `-` + 16 + `-` + 2, dashes exactly at
    2, 35, 52, every other character a lowercase hex digit. -/
theorem C12_encode_shape (c : SpanContext) :
    (encodeTraceparent c).length = 55 ∧
    ∃ t s f : List Char,
      encodeTraceparent c = ['0','0'] ++ [dash] ++ t ++ [dash] ++ s ++ [dash] ++ f ∧
      t.length = 32 ∧ s.length = 16 ∧ f.length = 2 ∧
      (∀ x ∈ t, isLowerHex x = true) ∧ (∀ x ∈ s, isLowerHex x = true) ∧
      (∀ x ∈ f, isLowerHex x = true) := by
  refine ⟨?_, _, _, _, rfl, toHexFixed_length _ _, toHexFixed_length _ _, toHexFixed_length _ _,
    toHexFixed_lower _ _, toHexFixed_lower _ _, toHexFixed_lower _ _⟩
  simp only [encodeTraceparent, List.length_append, toHexFixed_length, List.length_cons, List.length_nil]

/-- **decode, fully characterised**: the decoder answers `some c` exactly when the text has
    exactly four dash-separated fields, the first is `00`, and the other three are
    hexadecimal numerals fitting 128 / 64 / 8 bits; `c` carries those values and the low bit
    of the flags. `HexFits` is defined without the parser (see `Lemmas/Codec.lean`); its
    reading of "a hexadecimal number" is Rust's `from_str_radix`: one optional leading `+`,
    upper- or lower-case digits, any number of leading zeros. -/
theorem C12_decode_some_iff (s : List Char) (c : SpanContext) :
    decodeTraceparent s = some c ↔
      ∃ t p f fv, splitOn dash s = [['0','0'], t, p, f] ∧
        HexFits 128 t c.traceId ∧ HexFits 64 p c.spanId ∧ HexFits 8 f fv ∧
        c.sampled = (fv % 2 == 1) := by
  unfold decodeTraceparent
  constructor
  · intro h
    split at h
    · rename_i v t p f hsplit
      split at h
      · rename_i hv
        subst hv
        split at h
        · cases h
        · rename_i tv ht
          split at h
          · cases h
          · rename_i pv hp
            split at h
            · cases h
            · rename_i fv hf
              cases h
              exact ⟨t, p, f, fv, hsplit, (parseRadix16_eq_some_iff _ _ _).mp ht,
                (parseRadix16_eq_some_iff _ _ _).mp hp, (parseRadix16_eq_some_iff _ _ _).mp hf, rfl⟩
      · cases h
    · cases h
  · rintro ⟨t, p, f, fv, hsplit, ht, hp, hf, hs⟩
    rw [hsplit]
    simp only [if_true]
    rw [(parseRadix16_eq_some_iff _ _ _).mpr ht, (parseRadix16_eq_some_iff _ _ _).mpr hp,
      (parseRadix16_eq_some_iff _ _ _).mpr hf]
    cases c; simp_all

/-- **decode returns `None`** whenever the text is not four fields, the version is not `00`,
    or a field is not a fitting hexadecimal numeral (contrapositive of the above, spelled out
    because it is the clause the property states). -/
theorem C12_decode_none (s : List Char)
    (h : ¬ ∃ t p f, splitOn dash s = [['0','0'], t, p, f] ∧
          (∃ v, HexFits 128 t v) ∧ (∃ v, HexFits 64 p v) ∧ (∃ v, HexFits 8 f v)) :
    decodeTraceparent s = none := by
  cases hd : decodeTraceparent s with
  | none => rfl
  | some c =>
    obtain ⟨t, p, f, fv, hs, ht, hp, hf, _⟩ := (C12_decode_some_iff s c).mp hd
    exact absurd ⟨t, p, f, hs, ⟨_, ht⟩, ⟨_, hp⟩, ⟨_, hf⟩⟩ h

/-- `TraceId`: `Display` then `FromStr` (and serde, which uses the same two string
    functions) is the identity; the text is 32 lowercase hex digits. -/
theorem C12_traceId_roundtrip (n : Nat) (h : n < 2 ^ 128) :
    parseTraceId (displayTraceId n) = some n ∧ (displayTraceId n).length = 32 ∧
      ∀ x ∈ displayTraceId n, isLowerHex x = true :=
  ⟨parseRadix16_toHexFixed 128 32 n (by decide) h (by decide), toHexFixed_length _ _,
    toHexFixed_lower _ _⟩

theorem C12_spanId_roundtrip (n : Nat) (h : n < 2 ^ 64) :
    parseSpanId (displaySpanId n) = some n ∧ (displaySpanId n).length = 16 ∧
      ∀ x ∈ displaySpanId n, isLowerHex x = true :=
  ⟨parseRadix16_toHexFixed 64 16 n (by decide) h (by decide), toHexFixed_length _ _,
    toHexFixed_lower _ _⟩

/-! non-vacuity: concrete instances of the hypotheses, and the leniency that the model shares
with `from_str_radix` (documented, D13) -/
example : (SpanContext.mk (2 ^ 128 - 1) (2 ^ 64 - 1) true).WF := by unfold SpanContext.WF; decide
-- `String.reduceToList` spells the literal out as its characters; left to `decide`, the kernel
-- decodes the UTF-8 of every literal, which is most of the work
example : decodeTraceparent "00-0af7651916cd43dd8448eb211c80319c-b7ad6b7169203331-01".toList
    = some ⟨0x0af7651916cd43dd8448eb211c80319c, 0xb7ad6b7169203331, true⟩ := by
  dsimp only [String.reduceToList]; decide
example : decodeTraceparent "00-+F-+1-+1".toList = some ⟨15, 1, true⟩ := by
  dsimp only [String.reduceToList]; decide
example : decodeTraceparent "00--1-1".toList = none := by
  dsimp only [String.reduceToList]; decide
example : decodeTraceparent "01-1-1-1".toList = none := by
  dsimp only [String.reduceToList]; decide
example : decodeTraceparent "00-1-1-1-".toList = none := by
  dsimp only [String.reduceToList]; decide
example : decodeTraceparent "00-1-1-100".toList = none := by
  dsimp only [String.reduceToList]; decide

end Fastrace
