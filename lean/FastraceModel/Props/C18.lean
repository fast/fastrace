import FastraceModel.Lemmas.Collector
import FastraceModel.Lemmas.Frame
import FastraceModel.Lemmas.Nesting

/-!
# C18 — recorded times are consistent with execution

Model side: instants are readings of a strictly increasing logical clock (`Ctr.now`), taken at
exactly the places the Rust code calls `Instant::now()`; `conv` is
`Instant::as_unix_nanos(anchor)` for the cycle's anchor, an arbitrary **monotone** function.

* `C18_duration_*`: a record's duration is `conv end ∸ conv begin` of the instants read at
  creation and finish; a local span still open when its set was collected ends at the
  collection instant; an event's timestamp is the conversion of the instant read when it was
  added;
* `C18_finish_after_begin`: the end instant of a finished local span is read strictly after its
  begin instant, so with a monotone conversion `begin + duration = conv end ≥ begin`;
* `C18_queue_begins_increase`: within one scope, span and event instants are recorded in
  strictly increasing order of creation — a child starts after its parent, a sibling after the
  previous sibling, an event after the span it is recorded in was entered;
* `C18_local_spans_nest`, `C18_siblings_disjoint`: for **every** well-nested piece of local-span
  code (any tree of `LocalSpan`s, events and properties, any depth) run in a scope with room
  for it: everything recorded inside a local span — child spans, their descendants, events —
  has its instants strictly inside that span's `(begin, end)`; what a block leaves behind lies
  entirely before what the next sibling block leaves behind; a span's direct children carry its
  id as parent (`OutOK`, proved by mutual induction over the block structure in
  `Lemmas/Nesting.lean`); with a monotone `conv` the same holds for the delivered records;
* `C18_elapsed`: `elapsed()` is `Some` exactly for a recording span (the value itself is a clock
  difference, see the tie).

Partial: the real clock cannot be injected, so the tie is relational: the harness brackets every
API call with its own monotonic and wall-clock readings and checks on every delivered record
that the duration lies in the window between the creating and the finishing call, the begin
time in the wall-clock window of the creating call, event timestamps inside the span's
interval, local children inside local parents, siblings not overlapping, `elapsed()` in its
window.  That `fastant`'s conversion is monotone and its TSC agrees across cores is assumed.
-/
namespace Fastrace

def Monotone' (f : Nat → Nat) : Prop := ∀ a b, a ≤ b → f a ≤ f b

/-- thread-safe span: duration and begin from the two instants stamped at creation and drop -/
theorem C18_duration_span (conv : Nat → Nat) (raw : RawSpan) (tr p : Nat) (hk : raw.kind = .span) :
    spanCore conv tr p raw = [⟨tr, raw.id, p, conv raw.beginT, conv raw.endT - conv raw.beginT, raw.name⟩] := by
  simp [spanCore, hk]

/-- local span: finished → its own end instant; still open at collection → the set's end time -/
theorem C18_duration_local (conv : Nat → Nat) (setEnd tr p : Nat) (raw : RawSpan) (hk : raw.kind = .span) :
    (localCore conv setEnd tr p raw).map (fun k => (k.beginNs, k.durationNs)) =
      [(conv raw.beginT, (if raw.endT = 0 then conv setEnd else conv raw.endT) - conv raw.beginT)] := by
  simp [localCore, hk]

/-- with a monotone conversion, begin + duration is the converted end instant -/
theorem C18_begin_plus_duration (conv : Nat → Nat) (hm : Monotone' conv) (b e : Nat) (h : b ≤ e) :
    conv b + (conv e - conv b) = conv e :=
  Nat.add_sub_of_le (hm b e h)

/-- every clock reading is strictly later than the previous one and never `Instant::ZERO` -/
theorem C18_clock_strict (c : Ctr) : c.now.1 = c.clock + 1 ∧ c.now.2.clock = c.now.1 ∧ c.now.1 ≠ 0 :=
  ⟨rfl, rfl, Nat.succ_ne_zero _⟩

/-- finishing a local span stamps an end instant read after its begin instant was read, when
    the begin instant is not in the future of the clock (true of every recorded instant:
    `C18_queue_begins_increase`) -/
theorem C18_finish_after_begin (q : SpanQueue) (c : Ctr) (idx : Nat) (sp : RawSpan)
    (h : q.spans[idx]? = some sp) (hb : sp.beginT ≤ c.clock) :
    ∃ sp', (q.finishSpan c idx).1.spans[idx]? = some sp' ∧ sp'.beginT = sp.beginT ∧ sp'.beginT < sp'.endT := by
  rw [SpanQueue.finishSpan_of_get h]
  exact ⟨_, List.getElem?_set_self (List.getElem?_eq_some_iff.mp h).1, rfl, Nat.lt_succ_of_le hb⟩

/-- all instants recorded in a queue are at most `clk`, and begin instants of spans and events
    strictly increase along the queue -/
def QueueTimes (q : SpanQueue) (clk : Nat) : Prop :=
  (∀ sp ∈ q.spans, sp.beginT ≤ clk ∧ sp.endT ≤ clk) ∧
  ((q.spans.filter (fun sp => sp.kind != RawKind.properties)).map (fun sp => sp.beginT)).Pairwise (· < ·)

/-- entering a local span keeps the order: its begin instant is later than everything before -/
theorem C18_queue_begins_increase (q : SpanQueue) (c : Ctr) (n : String) (q' : SpanQueue) (idx : Nat) (c' : Ctr)
    (hs : q.startSpan c n = some (q', idx, c')) (hq : QueueTimes q c.clock) :
    QueueTimes q' c'.clock ∧ c.clock < c'.clock := by
  cases (SpanQueue.startSpan_eq_some.mp hs).2
  obtain ⟨h1, h2⟩ := hq
  refine ⟨⟨?_, ?_⟩, Nat.lt_succ_self _⟩
  · intro sp hsp
    rcases List.mem_append.mp hsp with hsp | hsp
    · exact ⟨Nat.le_succ_of_le (h1 sp hsp).1, Nat.le_succ_of_le (h1 sp hsp).2⟩
    · cases List.mem_singleton.mp hsp; exact ⟨Nat.le_refl _, Nat.zero_le _⟩
  · -- the new entry is a span, so the filter keeps it, and it is later than all before it
    rw [List.filter_append, List.map_append]
    refine List.pairwise_append.mpr ⟨h2, List.pairwise_singleton .., fun y hy b hb => ?_⟩
    cases List.mem_singleton.mp hb
    obtain ⟨sp, hsp, rfl⟩ := List.mem_map.mp hy
    exact Nat.lt_succ_of_le (h1 sp (List.mem_filter.mp hsp).1).1

/-- `Span::elapsed()` is `Some` exactly for a recording span -/
theorem C18_elapsed (s : Sys) (t : Nat) (v : String) (sv : SpanVal) (h : assocGet s.spans v = some sv) :
    exec s t (.elapsed v) = (s, .elapsed sv.isSome) := by
  dsimp only [exec]; rw [h]

/-! non-vacuity -/
example : QueueTimes (SpanQueue.withCapacity 4) 0 := ⟨fun _ h => (List.not_mem_nil h).elim, .nil⟩

/-- **a local span encloses everything recorded inside it**: run `LocalSpan::enter(n)`, any
    well-nested body, drop — on a queue with room, a usable parent and non-zero ids.  The queue
    gains the span's record `s` followed by the records `kids` of the body, and every one of them
    (child spans at any depth, events) has its instants strictly between `s.beginT` and `s.endT`;
    the span itself ran inside the clock window of the call sequence; earlier entries are
    untouched and the innermost-open-span pointer is restored. -/
theorem C18_local_spans_nest (n : String) (body : List LB) (q : SpanQueue) (c : Ctr)
    (hr : Ready q c (LB.span n body).size) :
    ∃ s kids, (runLB q c (.span n body)).1.spans = q.spans ++ s :: kids ∧
      s.kind = .span ∧ s.parentId = q.nextParent.getD 0 ∧
      c.clock < s.beginT ∧ s.beginT < s.endT ∧ s.endT ≤ (runLB q c (.span n body)).2.clock ∧
      (∀ k ∈ kids, InWindow s.beginT (s.endT - 1) k) ∧
      (runLB q c (.span n body)).1.nextParent = q.nextParent := by
  obtain ⟨new, hran, hout⟩ := runLB_ok (.span n body) q c hr
  obtain ⟨s, kids, rfl, hk, _, hp, _, h1, h2, h3, hkids⟩ := hout
  exact ⟨s, kids, hran.spans, hk, hp, h1, h2, h3, outsOK_window body _ _ _ kids hkids, hran.par⟩

/-- **sibling blocks do not overlap**: of two consecutive pieces of local-span code, everything
    the first records lies at or before an instant `mid`, everything the second records strictly
    after it -/
theorem C18_siblings_disjoint (b : LB) (bs : List LB) (q : SpanQueue) (c : Ctr)
    (hr : Ready q c (LB.sizes (b :: bs))) :
    ∃ l1 l2 mid, (runLBs q c (b :: bs)).1.spans = q.spans ++ l1 ++ l2 ∧
      (∀ x ∈ l1, InWindow c.clock mid x) ∧ (∀ y ∈ l2, InWindow mid (runLBs q c (b :: bs)).2.clock y) := by
  obtain ⟨new, hran, hout⟩ := runLBs_ok (b :: bs) q c hr
  obtain ⟨l1, l2, mid, rfl, _, h1, h2⟩ := hout
  refine ⟨l1, l2, mid, by rw [hran.spans, List.append_assoc], outOK_window b _ _ _ l1 h1, outsOK_window bs _ _ _ l2 h2⟩

/-! non-vacuity: `outer { inner {} ; event }` on an empty queue -/
example :
    ((runLB (SpanQueue.withCapacity 8) ⟨1, 0, 0⟩ (.span "outer" [.span "inner" [], .event "e" none])).1.spans.map
      fun s => (s.name, s.beginT, s.endT)) = [("outer", 1, 5), ("inner", 2, 3), ("e", 4, 0)] := rfl
example : Ready (SpanQueue.withCapacity 8) ⟨1, 0, 0⟩ (LB.span "outer" [.span "inner" [], .event "e" none]).size :=
  ⟨by decide, by decide, by decide⟩

end Fastrace
