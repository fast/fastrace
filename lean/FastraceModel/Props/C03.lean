import FastraceModel.Lemmas.Groups
import FastraceModel.Lemmas.SecondPass

/-!
# C03 — cancelable mode holds a trace until its root finishes, then delivers it whole

Collector level, for **every** collector state and **every** drained batch, hence for every
history of batches: with `cancelable(true)` the report of a cycle is exactly the buffered span
sets of the collect ids whose `commit` is in that batch.

* `C03_only_at_commit` — nothing of a trace is reported in a cycle that does not consume the
  trace's commit (in particular: nothing before the root finishes);
* `C03_single_report` — each id is emitted at most once per cycle and is not retained
  afterwards, so nothing of it can be reported later;
* `C03_whole` — what is emitted for the id is everything buffered for it in earlier cycles
  followed by everything the batch routes to it, in arrival order: every span set whose
  submit was drained no later than the commit is in that one report.

"Every span that *finished* before the root" additionally needs its submit to be drained no
later than the commit.  Within one thread that follows from FIFO queues (C09).  Across threads
the queues are drained one after another, and a commit popped from a queue visited late could
be younger than a submit pushed meanwhile to a queue visited earlier: defect D4, repaired in
/repo by a **second drain pass** (commits first seen in the second pass wait for the next
cycle).  `C03_second_pass_collects_all` states what the second pass does, step by step: it
moves everything the retained receivers' rings hold into this cycle's batch.  Since whatever
was pushed before a commit was pushed is in its ring before that commit is popped in the first
pass, hence before the second pass begins, the batch of a cycle contains every command that
happened-before any commit it processes.  That last temporal step is an argument about the
real-time order of pushes, exercised by stepped cycles (corpus `C0x/D4-*.txt`), not a Lean
theorem.  D14 (a command consumed one cycle before its trace's *start*) is repaired: commands
first seen in the second pass wait for the next cycle unless a commit of this cycle needs them
(`C03_second_pass_waits_for_start`, `Sys.carried`; DESIGN.md §0.3).
-/
namespace Fastrace

/-- the span sets emitted by a cancelable cycle, grouped by collect id -/
def cancelableEmitted (c : Coll) (batch : List Cmd) : List (Nat × List Collection) :=
  commitGroups (afterSubmits c batch).1 (commitsOf batch)

/-- the report of a cancelable cycle is exactly the emitted groups (up to mounted attachments) -/
theorem C03_report_is_emitted (conv : Nat → Nat) (c : Coll) (batch : List Cmd)
    (hr : c.hasReporter = true) (hc : c.cancelable = true) :
    ∃ recs, (cycleProcess conv c batch).2 = some recs ∧
      recs.map Record.core = (cancelableEmitted c batch).flatMap (fun g => g.2.flatMap (collectionCores conv)) :=
  cancelable_cycle_records conv c batch hr hc

/-- **held until the commit**: a group is emitted only for an id committed in this batch -/
theorem C03_only_at_commit (c : Coll) (batch : List Cmd) :
    ∀ g ∈ cancelableEmitted c batch, g.1 ∈ commitsOf batch :=
  fun g hg => (commitGroups_keys _ _ g hg).1

/-- a cycle whose batch contains no commit reports nothing at all -/
theorem C03_no_commit_no_records (conv : Nat → Nat) (c : Coll) (batch : List Cmd)
    (hr : c.hasReporter = true) (hc : c.cancelable = true) (hn : commitsOf batch = []) :
    (cycleProcess conv c batch).2 = some [] := by
  obtain ⟨recs, h1, h2⟩ := C03_report_is_emitted conv c batch hr hc
  rw [cancelableEmitted, hn] at h2
  rw [h1, List.map_eq_nil_iff.mp h2]

/-- **single report**: each id at most once in a report, and gone afterwards -/
theorem C03_single_report (conv : Nat → Nat) (c : Coll) (batch : List Cmd) (hr : c.hasReporter = true) :
    ((cancelableEmitted c batch).map (·.1)).Nodup ∧
    ∀ id ∈ commitsOf batch, id ∉ (cycleProcess conv c batch).1.keys :=
  ⟨commitGroups_nodup _ _, fun id hid h => ((cycleProcess_keys conv c batch hr id).mp h).2.2 hid⟩

/-- **whole**: the group of a committed id is what was buffered for it before plus what this
    batch routes to it, in arrival order -/
theorem C03_whole (c : Coll) (batch : List Cmd) :
    ∀ g ∈ cancelableEmitted c batch,
      g.2 = (phaseDrops (phaseStarts c batch) batch).colsOf g.1 ++ routed g.1 (submitsOf batch) := by
  intro g hg
  obtain ⟨_, hk, hcols⟩ := commitGroups_keys _ _ g hg
  exact hcols.trans (foldl_processSubmit_colsOf _ _ _ ((foldl_processSubmit_keys _ _ _).mp hk))

/-- a trace that is not committed in this batch keeps accumulating: nothing is lost while it
    is held -/
theorem C03_held_accumulates (c : Coll) (batch : List Cmd) (id : Nat)
    (hid : id ∈ (phaseDrops (phaseStarts c batch) batch).keys) :
    (afterSubmits c batch).1.colsOf id
      = (phaseDrops (phaseStarts c batch) batch).colsOf id ++ routed id (submitsOf batch) :=
  foldl_processSubmit_colsOf _ _ _ hid

/-! non-vacuity: start + two submits + commit in one batch → one report with both span sets;
the same without the commit → empty report, both held -/
example :
    let raw (i : Nat) : RawSpan := ⟨i, 0, 1, "s", none, .span, 2⟩
    let tok : Token := [⟨9, 0, 0, true, true⟩]
    ((cycleProcess id ⟨true, true, []⟩ [.start 0, .submit (.span (raw 1)) tok, .submit (.span (raw 2)) tok, .commit 0]).2.map
        (·.map (·.spanId))) = some [1, 2] ∧
    ((cycleProcess id ⟨true, true, []⟩ [.start 0, .submit (.span (raw 1)) tok, .submit (.span (raw 2)) tok]).2.map
        (·.map (·.spanId))) = some [] :=
  ⟨rfl, rfl⟩

/-! ### the second drain pass (D4 repair) -/

/-- **the second pass collects everything the retained receivers hold**: from the moment the
    first pass is over (phase `atRx2`, all retained receivers still to revisit, distinct
    threads), `kept.length` collector steps later the cycle is about to process and report, the
    first-pass buffer is untouched, every retained ring is empty, and the second-pass buffer
    holds exactly what those rings held, in registry and ring order.  `Sys.finishCycle` then
    takes from it everything except commits, which become the next cycle's deferred commits. -/
theorem C03_second_pass_collects_all (s : Sys) (cs : CycState) (hc : s.cyc = some cs)
    (hp : cs.phase = .atRx2) (ht : cs.todo2 = keysOf cs.kept) (hn : (keysOf cs.kept).Nodup) (hne : cs.kept ≠ []) :
    ∃ cs', (stepN cs.kept.length s).cyc = some cs' ∧ cs'.phase = .atReport ∧ cs'.buf = cs.buf ∧
      cs'.kept = cs.kept.map (fun e => (e.1, { e.2 with q := [] })) ∧
      cs'.buf2 = cs.buf2 ++ cs.kept.flatMap (·.2.q) := by
  obtain ⟨cs', e1, e2, e3, e4⟩ := stepN_second_pass (keysOf cs.kept) s cs hc hp ht fun h => hne (List.map_eq_nil_iff.mp h)
  rw [keysOf, List.length_map] at e1
  rw [pass2_collects cs.kept cs.buf2 hn] at e4
  simp only [Prod.mk.injEq] at e4
  exact ⟨cs', e1, e2, e3, e4.1, e4.2⟩

/-- what the cycle then does with the two buffers: the batch is the deferred commits, what the
    previous cycle carried over, the first pass, and of the second pass what `splitSecond` lets
    through — never its commits; those become the deferred commits of the next cycle (when a
    reporter is installed), and what `splitSecond` holds back becomes the next cycle's `carried` -/
theorem C03_finish_defers_second_pass_commits (s : Sys) (kept : List (Nat × Ring Cmd)) (buf buf2 : List Cmd) :
    (s.finishCycle kept buf buf2).1.deferred = (if s.coll.hasReporter then commitsOf buf2 else []) ∧
    (s.finishCycle kept buf buf2).1.carried = (if s.coll.hasReporter then (s.cycleSplit buf buf2).2 else []) ∧
    (s.finishCycle kept buf buf2).2 = (cycleProcess id s.coll (s.cycleBatch buf buf2)).2 :=
  ⟨rfl, rfl, rfl⟩

/-- the second pass never lets a commit through -/
theorem C03_split_no_commit (cb : Bool) (c1 c2 : Coll) (cm : List Nat) (l : List Cmd) :
    commitsOf (splitSecond cb c1 c2 cm l).1 = [] ∧ commitsOf (splitSecond cb c1 c2 cm l).2 = [] := by
  rw [splitSecond_eq]
  exact ⟨commitsOf_splitSide, commitsOf_splitSide⟩

/-- **D14 repair**: a cancel or a span set first seen in the second pass whose trace has not been started
    (its start command is still in a channel) is not consumed by this cycle — it is carried -/
theorem C03_second_pass_waits_for_start (cb : Bool) (c1 c2 : Coll) (cm : List Nat) (l : List Cmd) :
    (∀ id, Cmd.drop id ∈ (splitSecond cb c1 c2 cm l).1 → c1.known id = true) ∧
    (∀ sp tok, Cmd.submit sp tok ∈ (splitSecond cb c1 c2 cm l).1 → ∀ it ∈ tok, c2.known it.collectId = true) := by
  rw [splitSecond_eq]
  refine ⟨fun id h => (drop_mem_splitSide.mp h).2, fun sp tok h it hit => ?_⟩
  have := submit_mem_splitSide h it hit
  simp only [carryItem, Bool.not_eq_true', Bool.or_eq_false_iff, Bool.not_eq_false'] at this
  exact this.1

/-! non-vacuity: two retained receivers, the second pass picks up what arrived meanwhile -/
example :
    let cs : CycState := { phase := .atRx2, todo := [], kept := [(0, ⟨[.commit 7], 4, true⟩), (1, ⟨[.start 9], 4, true⟩)],
                           buf := [], todo2 := [0, 1] }
    let s : Sys := { Sys.init with cyc := some cs }
    ((stepN 2 s).cyc.map fun c => (c.buf2, c.kept.map (·.2.q))) = some ([.commit 7, .start 9], [[], []]) :=
  rfl

end Fastrace
