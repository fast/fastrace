import FastraceModel.Model.Report.Jaeger

/-!
# C20 — the Jaeger reporter sends every span once in packets below the UDP limit

`tryReportLoop` is `JaegerReporter::try_report` over an **arbitrary** size function `enc` and
limit `max`; the theorems hold for every batch, every size distribution, every limit.
Termination is part of the definition (well-founded on `(remaining, spans_per_batch)`), so
"the call terminates" is discharged by Lean accepting `tryReportLoop`.
-/
namespace Fastrace.Jaeger

variable {α : Type}

def Out.items : Out α → List α
  | .sent c => c
  | .skipped s => [s]

/-- loop-level partition: from any reachable loop state (`perBatch ≥ 1`) the outputs, in
    order, are exactly the remaining spans — nothing lost, duplicated or reordered -/
theorem tryReportLoop_partition (enc : List α → Nat) (max : Nat) (rest : List α) (perBatch : Nat)
    (hp : 1 ≤ perBatch) :
    (tryReportLoop enc max rest perBatch).flatMap Out.items = rest := by
  fun_induction tryReportLoop enc max rest perBatch with
  | case1 => rfl
  | case2 pb x xs hb => exact absurd hb (Nat.ne_of_gt (Nat.lt_min.mpr ⟨hp, Nat.succ_pos _⟩))
  | case3 pb x xs hb hmax hle ih => simp [Out.items, ih hp]
  | case4 pb x xs hb hmax hle ih =>
    exact ih (Nat.div_pos (Nat.le_trans (Nat.lt_of_not_le hle) (Nat.min_le_left _ _)) (by decide))
  | case5 pb x xs hb hmax ih =>
    simp only [List.flatMap_cons, ih hp]
    exact List.take_append_drop _ _

/-- **partition**: datagram contents and skipped spans, interleaved in emission order, are the
    input batch -/
theorem C20_partition (enc : List α → Nat) (max : Nat) (spans : List α) :
    (tryReport enc max spans).flatMap Out.items = spans := by
  cases spans with
  | nil => simp [tryReport, tryReportLoop]
  | cons x xs => exact tryReportLoop_partition enc max (x :: xs) _ (by simp)

/-- what `try_report` guarantees of each single output -/
def Out.Good (enc : List α → Nat) (max : Nat) : Out α → Prop
  | .sent c => c ≠ [] ∧ enc c < max
  | .skipped s => max ≤ enc [s]

theorem tryReportLoop_good (enc : List α → Nat) (max : Nat) (rest : List α) (perBatch : Nat) :
    ∀ o ∈ tryReportLoop enc max rest perBatch, Out.Good enc max o := by
  fun_induction tryReportLoop enc max rest perBatch with
  | case1 => simp
  | case2 => simp
  | case3 pb x xs hb hmax hle ih =>
    -- a batch of one that does not fit: the span is skipped
    have h1 : min pb (xs.length + 1) = 1 := Nat.le_antisymm hle (Nat.pos_of_ne_zero hb)
    rw [h1] at hmax
    exact List.forall_mem_cons.mpr ⟨hmax, ih⟩
  | case4 pb x xs hb hmax hle ih => exact ih
  | case5 pb x xs hb hmax ih =>
    exact List.forall_mem_cons.mpr ⟨⟨fun h => hb ((List.take_eq_nil_iff.mp h).resolve_right (List.cons_ne_nil x xs)),
      Nat.lt_of_not_le hmax⟩, ih⟩

/-- **size**: every datagram is strictly below the limit -/
theorem C20_sizes (enc : List α → Nat) (max : Nat) (rest : List α) (perBatch : Nat) :
    ∀ c, Out.sent c ∈ tryReportLoop enc max rest perBatch → enc c < max :=
  fun _ hc => (tryReportLoop_good enc max rest perBatch _ hc).2

/-- **only oversize spans are skipped**: a skipped span does not fit in a datagram alone -/
theorem C20_skipped_only_oversize (enc : List α → Nat) (max : Nat) (rest : List α) (perBatch : Nat)
    (hp : 1 ≤ perBatch) :
    ∀ s, Out.skipped s ∈ tryReportLoop enc max rest perBatch → max ≤ enc [s] :=
  fun _ hs => tryReportLoop_good enc max rest perBatch _ hs

/-- every datagram carries at least one span -/
theorem C20_sent_nonempty (enc : List α → Nat) (max : Nat) (rest : List α) (perBatch : Nat) :
    ∀ c, Out.sent c ∈ tryReportLoop enc max rest perBatch → c ≠ [] :=
  fun _ hc => (tryReportLoop_good enc max rest perBatch _ hc).1

/-- **a span that fits alone is transmitted exactly once**: it is never skipped, and by the
    partition identity each position of the batch occurs in exactly one output -/
theorem C20_fitting_never_skipped (enc : List α → Nat) (max : Nat) (spans : List α) (s : α)
    (hfit : enc [s] < max) : Out.skipped s ∉ tryReport enc max spans := by
  intro h
  cases spans with
  | nil => simp [tryReport, tryReportLoop] at h
  | cons x xs =>
    exact absurd hfit (Nat.not_lt.mpr (C20_skipped_only_oversize enc max (x :: xs) _ (by simp) s h))

/-- the instance the reporter uses: size = length of the Thrift encoding, limit = the
    regenerated `MAX_UDP_PACKAGE_SIZE`, which is at most 8000 -/
theorem C20_real_sizes (svc : String) (rs : List Record) :
    ∀ d ∈ datagrams svc rs, d.length < 8000 := by
  intro d hd
  simp only [datagrams, List.mem_filterMap] at hd
  obtain ⟨o, ho, hod⟩ := hd
  cases o with
  | skipped s => simp at hod
  | sent c =>
    simp only [Option.some.injEq] at hod
    subst hod
    have := C20_sizes (fun c => (encodeBatch svc c).length) Consts.maxUdp rs rs.length c ho
    simpa [Consts.maxUdp] using this

/-! non-vacuity: a batch where halving, sending and skipping all happen -/
example : tryReport (fun c : List Nat => c.sum) 10 [3, 4, 5, 12, 1, 1] =
    [.sent [3], .sent [4], .sent [5], .skipped 12, .sent [1], .sent [1]] := by
  simp +decide [tryReport, tryReportLoop]
example : tryReport (fun c : List Nat => c.sum) 10 [1, 2, 3, 4, 5, 6] =
    [.sent [1, 2, 3], .sent [4], .sent [5], .sent [6]] := by
  simp +decide [tryReport, tryReportLoop]

end Fastrace.Jaeger
