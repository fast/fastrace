import FastraceModel.Lemmas.Collector

/-!
# C17 — detached local spans attach identically wherever they are pushed
-/
namespace Fastrace

/-- `to_span_records(ctx)` **is** what post-processing the same set under a token item
    `(ctx.trace, ctx.span)` delivers (same functions, fresh attachment map) -/
theorem C17_to_records_is_postprocess (conv : Nat → Nat) (spans : List RawSpan) (endT trace parent : Nat) :
    toSpanRecords conv spans endT trace parent
      = (postprocess conv [⟨.locals spans endT, trace, parent⟩] [] []).1 := by
  simp [toSpanRecords, postprocess, amendCollection]

/-- the part of a record that must be identical in every copy -/
def copyView (k : Core) : Nat × String × Nat × Nat := (k.spanId, k.name, k.beginNs, k.durationNs)

/-- **copies are identical**: pushing the same set under any two parents (any traces) yields
    records with the same ids, names, begin times and durations, in the same order; every
    copy is in its parent's trace -/
theorem C17_copies_identical (conv : Nat → Nat) (spans : List RawSpan) (endT t1 p1 t2 p2 : Nat) :
    (collectionCores conv ⟨.locals spans endT, t1, p1⟩).map copyView
      = (collectionCores conv ⟨.locals spans endT, t2, p2⟩).map copyView ∧
    (∀ k ∈ collectionCores conv ⟨.locals spans endT, t1, p1⟩, k.traceId = t1) := by
  refine ⟨?_, collectionCores_trace conv ⟨.locals spans endT, t1, p1⟩⟩
  have view (raw : RawSpan) :
      (localCore conv endT t1 p1 raw).map copyView = (localCore conv endT t2 p2 raw).map copyView := by
    unfold localCore
    cases raw.kind <;> rfl
  simp only [collectionCores, List.map_flatMap, view]

/-- the roots of the set hang under the parent it was pushed to; inner spans keep their
    recorded parent -/
theorem C17_parents (conv : Nat → Nat) (endT trace parent : Nat) (raw : RawSpan) (hk : raw.kind = .span) :
    (localCore conv endT trace parent raw).map (·.parentId)
      = [if raw.parentId = 0 then parent else raw.parentId] := by
  rw [localCore, hk]
  rfl

/-- a span still open when the set was collected ends at the collection time -/
theorem C17_open_span_closed_at_collect (conv : Nat → Nat) (endT trace parent : Nat) (raw : RawSpan)
    (hk : raw.kind = .span) (ho : raw.endT = 0) :
    (localCore conv endT trace parent raw).map (·.durationNs) = [conv endT - conv raw.beginT] := by
  rw [localCore, hk, ho]
  rfl

end Fastrace
