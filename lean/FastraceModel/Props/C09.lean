import FastraceModel.Model.SpscSteps

/-!
# C09 — overload degrades by omission only

Channel (any capacity, **any interleaving** of the sender's individual ring pushes with
consumer pops — the `pops` schedules are universally quantified):

* `C09_channel_is_a_queue`: after any call, what the consumer has received, followed by what
  is in the ring, followed by what is parked, is the previous such sequence plus the new value
  iff it was accepted — so values are delivered in the order they were accepted, each exactly
  once, nothing is invented (refinement to a FIFO queue with lossy admission);
* `C09_forced_never_dropped`: `force_send` always accepts (finish and cancel signals are
  neither dropped nor reordered while the thread lives) — with `C09_channel_is_a_queue` this
  is the D2 fix: parked values are replayed oldest-first and a new value never overtakes them;
* `C09_lossy_only_when_full`: `send` rejects only when, at its last push attempt, the ring
  was full;
* `C09_capacity`: the ring never holds more than its capacity;
* `C09_pops_preserve`: consumer pops never change the sequence.

Local limits: `C07_queue_at_limit`, `C07_scope_at_limit` (excess local spans / scopes are
skipped as no-ops); that the recorded ones keep their correct parents is C02/C10, whose
theorems do not assume the limits are not hit.

Thread exit (`Sender::drop`) may lose parked values when the ring is full (open finding D3);
`C09_drop_sublist` states what still holds: nothing is reordered or invented.
-/
namespace Fastrace
namespace Chan
variable {α : Type}

def front (c : Chan α) : List α := c.out ++ c.ring.q

/-- the ring never exceeds its capacity -/
def capOk (c : Chan α) : Prop := c.ring.q.length ≤ c.ring.cap

theorem pop1_eq (c : Chan α) :
    c.pop1 = { c with ring := { c.ring with q := c.ring.q.drop 1 }, out := c.out ++ c.ring.q.take 1 } := by
  obtain ⟨⟨q, cap, alive⟩, pend, out⟩ := c
  cases q <;> simp [pop1, Ring.pop]

theorem popN_eq (c : Chan α) (n : Nat) :
    c.popN n = { c with ring := { c.ring with q := c.ring.q.drop n }, out := c.out ++ c.ring.q.take n } := by
  induction n generalizing c with
  | zero => simp [popN]
  | succ n ih =>
    rw [popN, ih, pop1_eq]
    simp [Nat.add_comm n 1, List.take_add]

theorem popN_front (c : Chan α) (n : Nat) : (c.popN n).front = c.front := by
  simp [popN_eq, front]

theorem popN_pending (c : Chan α) (n : Nat) : (c.popN n).pending = c.pending := by
  rw [popN_eq]

theorem popN_capOk (c : Chan α) (n : Nat) (h : c.capOk) : (c.popN n).capOk := by
  simp only [popN_eq, capOk, List.length_drop]; exact Nat.le_trans (Nat.sub_le ..) h

/-- consumer pops never change the sequence -/
theorem C09_pops_preserve (c : Chan α) (n : Nat) : (c.popN n).seq = c.seq :=
  show (c.popN n).front ++ (c.popN n).pending = c.front ++ c.pending by rw [popN_front, popN_pending]

theorem pushed_front (c : Chan α) (x : α) : (c.pushed x).front = c.front ++ [x] := by
  simp [front, pushed]

theorem pushed_capOk (c : Chan α) (x : α) (h : ¬ c.isFull) : (c.pushed x).capOk := by
  simp only [isFull, capOk, pushed, List.length_append, List.length_singleton] at *; omega

/-- `pushed` is what `Producer::push` does when the ring is not full -/
theorem pushed_is_push (c : Chan α) (x : α) (h : ¬ c.isFull) : c.ring.push x = some (c.pushed x).ring := by
  simp [Ring.push, pushed, Nat.lt_of_not_le h]

/-- one attempt: the consumer pops, then a full ring ends the call (a forced value is parked behind
    `pend`, another is rejected), and otherwise the oldest of `pend`, or `v` after them, is pushed -/
theorem sendLoop_eq (c : Chan α) (v : α) (forced : Bool) (pend : List α) (pops : List Nat) :
    sendLoop c v forced pend pops =
      if (c.popN (pops.headD 0)).isFull then
        ({ c.popN (pops.headD 0) with pending := if forced then pend ++ [v] else pend }, forced)
      else match pend with
        | [] => ({ (c.popN (pops.headD 0)).pushed v with pending := [] }, true)
        | x :: rest => sendLoop ((c.popN (pops.headD 0)).pushed x) v forced rest pops.tail := by
  cases pend <;> cases forced <;> rfl

/-- **specification of a call**, under any schedule of consumer pops: with `pend` the
    not-yet-replayed part of the overflow list, the sequence `out ++ ring ++ pend` grows by `v`
    iff `v` is accepted; only an unforced `v` is rejected, and then the ring is left full; the
    ring stays within its capacity -/
theorem sendLoop_spec (c : Chan α) (v : α) (forced : Bool) (pend : List α) (pops : List Nat) :
    (sendLoop c v forced pend pops).1.seq
      = c.front ++ pend ++ (if (sendLoop c v forced pend pops).2 then [v] else []) ∧
    ((sendLoop c v forced pend pops).2 = false → forced = false ∧ (sendLoop c v forced pend pops).1.isFull) ∧
    (c.capOk → (sendLoop c v forced pend pops).1.capOk) := by
  rw [sendLoop_eq, ← popN_front c (pops.headD 0)]
  have hcap := popN_capOk c (pops.headD 0)
  generalize c.popN (pops.headD 0) = c' at hcap ⊢
  by_cases hfull : c'.isFull
  · rw [if_pos hfull]
    exact ⟨by cases forced <;> simp [seq, front], fun h => ⟨h, hfull⟩, hcap⟩
  · rw [if_neg hfull]
    cases pend with
    | nil => exact ⟨by simp [seq, front, pushed], nofun, fun _ => pushed_capOk c' v hfull⟩
    | cons x rest =>
      have ih := sendLoop_spec (c'.pushed x) v forced rest pops.tail
      exact ⟨by rw [ih.1, pushed_front]; simp, ih.2.1, fun _ => ih.2.2 (pushed_capOk c' x hfull)⟩

/-- **the channel is a queue**: any call, under any interleaving with consumer pops, extends
    the sequence "received ++ in the ring ++ parked" by exactly the value, iff accepted -/
theorem C09_channel_is_a_queue (c : Chan α) (v : α) (forced : Bool) (pops : List Nat) :
    (c.sendWith v forced pops).1.seq = c.seq ++ (if (c.sendWith v forced pops).2 then [v] else []) :=
  (sendLoop_spec c v forced c.pending pops).1

/-- **finish / cancel signals are never dropped** while the sender lives -/
theorem C09_forced_never_dropped (c : Chan α) (v : α) (pops : List Nat) :
    (c.sendWith v true pops).2 = true := by
  cases h : (c.sendWith v true pops).2
  · exact nomatch ((sendLoop_spec c v true c.pending pops).2.1 h).1
  · rfl

/-- hence: whatever the schedule, a forced value is in the sequence right after everything
    accepted before it — delivered exactly once and never overtaken -/
theorem C09_forced_fifo (c : Chan α) (v : α) (pops : List Nat) :
    (c.sendWith v true pops).1.seq = c.seq ++ [v] := by
  simpa [C09_forced_never_dropped] using C09_channel_is_a_queue c v true pops

/-- a non-forced value is rejected only with a full ring at its last push attempt: if it is
    rejected, the ring of the resulting channel is full -/
theorem C09_lossy_only_when_full (c : Chan α) (v : α) (pend : List α) (pops : List Nat)
    (hrej : (sendLoop c v false pend pops).2 = false) :
    (sendLoop c v false pend pops).1.isFull :=
  ((sendLoop_spec c v false pend pops).2.1 hrej).2

theorem C09_capacity (c : Chan α) (v : α) (forced : Bool) (pend : List α) (pops : List Nat) (h : c.capOk) :
    (sendLoop c v forced pend pops).1.capOk :=
  (sendLoop_spec c v forced pend pops).2.2 h

/-- `Sender::drop` keeps everything received or in the ring, and of the parked values a sublist
    `kept`, in their order -/
theorem dropLoop_spec (c : Chan α) (pend : List α) (pops : List Nat) :
    (∃ kept, kept.Sublist pend ∧ (dropLoop c pend pops).front = c.front ++ kept) ∧
    (dropLoop c pend pops).pending = [] := by
  cases pend with
  | nil => exact ⟨⟨[], .slnil, by simp [dropLoop, front]⟩, rfl⟩
  | cons x rest =>
    rw [dropLoop, ← popN_front c (pops.headD 0)]
    generalize c.popN (pops.headD 0) = c'
    by_cases hfull : c'.isFull
    · rw [if_pos hfull]
      obtain ⟨⟨kept, hs, hk⟩, h⟩ := dropLoop_spec c' rest pops.tail
      exact ⟨⟨kept, hs.cons x, hk⟩, h⟩
    · rw [if_neg hfull]
      obtain ⟨⟨kept, hs, hk⟩, h⟩ := dropLoop_spec (c'.pushed x) rest pops.tail
      exact ⟨⟨x :: kept, hs.cons_cons x, by rw [hk, pushed_front]; simp⟩, h⟩

/-- thread exit: the sequence after `Sender::drop` is obtained from the one before by
    deleting parked values only (nothing reordered, nothing invented) — and it *can* delete
    (open finding D3, witness below) -/
theorem C09_drop_sublist (c : Chan α) (pend : List α) (pops : List Nat) :
    ((dropLoop c pend pops).out ++ (dropLoop c pend pops).ring.q).Sublist (c.front ++ pend) ∧
    (dropLoop c pend pops).pending = [] := by
  obtain ⟨⟨kept, hs, hk⟩, h⟩ := dropLoop_spec c pend pops
  exact ⟨(hk ▸ hs.append_left c.front : (dropLoop c pend pops).front.Sublist _), h⟩

/-! non-vacuity and witnesses -/

/-- capacity 1: `A`, then forced `cancel`, forced `commit` park; the consumer pops between the
    replay pushes of a later call; order is kept (this is the D2 witness: the unfixed code
    delivered `A, commit, cancel`) -/
example :
    let c0 : Chan Nat := Chan.new 1
    let c1 := (c0.sendWith 10 false []).1          -- A accepted, ring full
    let c2 := (c1.sendWith 20 true []).1           -- cancel parked
    let c3 := (c2.sendWith 30 true []).1           -- commit parked behind it
    let c4 := (c3.sendWith 40 true [1, 1, 1]).1    -- next call: a pop before each push attempt
    (c4.popN 5).out = [10, 20, 30, 40] := by decide

/-- D3: a thread exiting with a full ring loses its parked commands -/
example :
    let c1 : Chan Nat := ((Chan.new 1).sendWith 10 false []).1
    let c2 := (c1.sendWith 20 true []).1
    ((c2.dropWith []).popN 3).out = [10] := by decide

end Chan
end Fastrace
