import FastraceModel.Lemmas.FrameOps
import FastraceModel.Lemmas.ProvOps

/-!
# C02 — delivered records reproduce the program's span tree

The tree is reproduced by three mechanisms, each proved here for all inputs:

1. **ids** (`SpanId::next_id`): within a thread the first 2³²−1 ids are non-zero and pairwise
   distinct; ids of threads with different prefixes never coincide.
2. **tokens** carry the parent at creation: a child's token item names its parent span's own
   id (`issueToken`); inside a local-parent scope the token names the innermost open local span,
   else the span set as local parent (`SpanLine.currentToken`); a new local span's `parent_id`
   is the innermost open local span or zero (`SpanQueue.startSpan`), and closing a local span
   makes its parent the innermost again (`SpanQueue.finishSpan`).
3. **the collector stamps**: every record produced from a span set under a token item has that
   item's trace id; its parent id is the raw parent, or the item's parent where the raw parent
   is zero; ids, names and order are untouched by attachment mounting
   (`C02_collection_stamps`, `C02_postprocess_cores`).  This holds for every batch and
   every collector state, i.e. wherever cycles fall.
-/
namespace Fastrace

/-- the `(n+1)`-th call of `next_id` on a thread returns `idAfter (n+1)` -/
theorem C02_nth_id (c : Ctr) (hs : c.suffix < 2 ^ 32) (n : Nat) :
    (c.after n).nextId.1 = c.idAfter (n + 1) := c.nextId_after n

/-- ids are non-zero: as long as the 32-bit counter has not wrapped to zero, or the thread
    prefix is non-zero -/
theorem C02_id_nonzero (c : Ctr) (n : Nat) (h : 0 < c.pref ∨ (c.suffix + n) % 2 ^ 32 ≠ 0) :
    c.idAfter n ≠ 0 := by
  rw [Ne, Ctr.idAfter_eq_zero]
  exact fun z => h.elim (fun h => Nat.ne_of_gt h z.1) (fun h => h z.2)

/-- ids of one thread are pairwise distinct for fewer than 2³² draws -/
theorem C02_ids_distinct_in_thread (c : Ctr) (i j : Nat) (hij : i < j) (hj : j - i < 2 ^ 32) :
    c.idAfter i ≠ c.idAfter j :=
  fun h => add_mod_ne hij hj ((c.idAfter_inj c i j).mp h).2

/-- ids of threads with different prefixes never coincide (prefixes are 32-bit) -/
theorem C02_ids_distinct_across_threads (c d : Ctr) (i j : Nat) (hp : c.pref ≠ d.pref) :
    c.idAfter i ≠ d.idAfter j :=
  fun h => hp ((c.idAfter_inj d i j).mp h).1

/-- a token issued by a span names that span's own id as parent, in every parent's trace -/
theorem C02_issueToken (sp : SpanInner) :
    (issueToken sp).map (fun it => (it.traceId, it.collectId, it.isSampled, it.parentId))
      = sp.token.map (fun it => (it.traceId, it.collectId, it.isSampled, sp.raw.id)) := by
  simp [issueToken]

/-- one copy per parent: a multi-parent span's token is the concatenation of its recording
    parents' issued tokens, in order -/
theorem C02_childN_token (s : Sys) (t : Nat) (v n : String) (ps : List String)
    (hp : ∀ p ∈ ps, (assocGet s.spans p).isSome) (hne : (ps.flatMap s.tokenOfVar).isEmpty = false) :
    ∃ inner, assocGet (exec s t (.childN v n ps)).1.spans v = some (some inner) ∧
      inner.token = ps.flatMap s.tokenOfVar := by
  rw [exec_childN s t v n ps hp, hne]
  exact ⟨_, assocGet_assocSet_same _ _ _, rfl⟩

/-- a span created from no recording parent at all (every parent a no-op span, or no parent) is a
    no-op span (defect D16, repaired: it used to be a live span with an empty token) -/
theorem C02_childN_noop (s : Sys) (t : Nat) (v n : String) (ps : List String)
    (hp : ∀ p ∈ ps, (assocGet s.spans p).isSome) (he : (ps.flatMap s.tokenOfVar).isEmpty = true) :
    assocGet (exec s t (.childN v n ps)).1.spans v = some none := by
  rw [exec_childN s t v n ps hp, he]
  exact assocGet_assocSet_same _ _ _

/-- inside a scope the parent is the innermost open local span, else the scope's span -/
theorem C02_currentToken_parent (l : SpanLine) (tok : Token) (h : l.token = some tok) :
    l.currentToken = some (tok.map fun it => { it with parentId := l.queue.nextParent.getD it.parentId }) := by
  simp [SpanLine.currentToken, h]

/-- a new local span is a child of the innermost open local span (zero = "of the scope") and
    becomes the innermost one -/
theorem C02_startSpan (q : SpanQueue) (c : Ctr) (name : String) (q' : SpanQueue) (idx : Nat) (c' : Ctr)
    (h : q.startSpan c name = some (q', idx, c')) :
    q'.spans = q.spans ++ [{ id := c.nextId.1, parentId := q.nextParent.getD 0, beginT := c.nextId.2.now.1,
                             name := name, props := none, kind := .span, endT := 0 }] ∧
    q'.nextParent = some c.nextId.1 ∧ idx = q.spans.length := by
  cases (SpanQueue.startSpan_eq_some.mp h).2
  exact ⟨rfl, rfl, rfl⟩

/-- closing a local span restores its parent as the innermost one (ids are non-zero) -/
theorem C02_finishSpan_restores (q : SpanQueue) (c : Ctr) (idx : Nat) (sp : RawSpan)
    (h : q.spans[idx]? = some sp) :
    (q.finishSpan c idx).1.nextParent = (if sp.parentId = 0 then none else some sp.parentId) := by
  rw [SpanQueue.finishSpan_of_get h]

/-- for every collector state and batch: the records handed to the reporter, up to mounted
    attachments, are exactly the cores of the collections post-processed in this cycle —
    in the cancelable configuration those of the committed ids -/
theorem C02_postprocess_cores (conv : Nat → Nat) (cols : List Collection) (committed : List Record) (d : Danglings) :
    (postprocess conv cols committed d).1.map Record.core
      = committed.map Record.core ++ cols.flatMap (collectionCores conv) :=
  postprocess_core conv cols committed d

/-- every record of a collection has the collection's (= the token item's) trace id, and its
    parent is the raw parent or — for the roots of the set — the token item's parent -/
theorem C02_collection_stamps (conv : Nat → Nat) (col : Collection) :
    ∀ k ∈ collectionCores conv col, k.traceId = col.traceId ∧
      (k.parentId = col.parentId ∨
        ∃ raw, (match col.spans with | .span r => [r] | .locals l _ => l).contains raw ∧
          raw.parentId ≠ 0 ∧ k.parentId = raw.parentId ∧ k.spanId = raw.id) := by
  intro k hk
  refine ⟨collectionCores_trace conv col k hk, ?_⟩
  unfold collectionCores at hk
  cases hs : col.spans with
  | span raw =>
    rw [hs] at hk
    exact .inl ((mem_spanCore.mp hk).2 ▸ rfl)
  | locals spans endT =>
    rw [hs] at hk
    obtain ⟨raw, hraw, hk⟩ := List.mem_flatMap.mp hk
    rw [(mem_localCore.mp hk).2]
    by_cases hz : raw.parentId = 0
    · exact .inl (if_pos hz)
    · exact .inr ⟨raw, List.contains_iff_mem.mpr hraw, hz, if_neg hz, rfl⟩

/-- **for every program, every delivered record's trace id is one supplied when a (sampled)
    root was created** — no operation, on any thread, under any placement of collector cycles,
    overload or thread exit, invents or alters a trace id (invariant `Prov`, `Lemmas/Prov*.lean`) -/
theorem C02_trace_ids_from_roots (p : Program) :
    ∀ o ∈ (run Sys.init p).2, ∀ rs, o = .report (some rs) → ∀ r ∈ rs, r.traceId ∈ sampledRootTraces p :=
  fun o ho rs hrs => (run_prov_init p o ho).1 rs hrs

/-! non-vacuity -/
example : (Ctr.mk 7 0 0).idAfter 1 = 7 * 2 ^ 32 + 1 := by decide
example : (Ctr.mk 0 (2 ^ 32 - 1) 0).idAfter 1 = 0 := by decide   -- the excluded wrap (D12)

end Fastrace
