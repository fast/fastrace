import FastraceModel.Props.C10

/-!
# C13 — future adapters scope spans to polls and completion

The adapter methods are modelled by `Sys.adPoll` (method entered, guard created, inner about
to run) and `Sys.adEnd` (inner returned `result`, method returns); what the inner future does
in between is an arbitrary well-nested program (`Blk`), possibly on another thread than the
previous poll.

* `C13_local_parent_during_poll` — during the poll the adapter's span is the local parent:
  the current token is the span's issued token;
* `C13_context_restored` — whatever the inner does (well-nested), after the poll the thread's
  local context is exactly what it was before (frame theorem, `Blk.adCall`);
* `C13_finishes_iff` / `C13_finish_once` / `C13_drop_finishes_if_held` — the span is finished
  exactly when the future completes (`Ready`) or the adapter is dropped while still holding it,
  and never twice: after a finishing call the adapter holds no span;
* `C13_guard_before_span` — on completion the guard is dropped (submitting the final poll's
  local spans) **before** the span is submitted and, for a root, committed (D5 fix): with
  per-thread FIFO (C09) and C03_whole the final poll's spans are part of the delivered trace
  in both configurations;
* `C13_enter_on_poll` — `enter_on_poll` opens exactly one local span per poll, under the local
  parent in effect, and closes it when the poll returns.
-/
namespace Fastrace

/-- during the poll, the span is the local parent -/
theorem C13_local_parent_during_poll (s : Sys) (t : Nat) (a call : String) (ad : Adapter) (sp : SpanInner)
    (ha : assocGet s.adapters a = some ad) (hk : ad.kind ≠ .enterOnPoll) (hs : ad.span = some (some sp))
    (hroom : (s.th t).stack.lines.length < (s.th t).stack.cap) :
    ((s.adPoll t a call).1.th t).stack.currentToken = some (issueToken sp) := by
  rw [s.adPoll_th t a call ad ha, if_neg hk, hs]
  exact Th.setLocalParent_currentToken _ sp hroom

/-- the thread's previous local context is restored after every poll, whatever (well-nested)
    the inner future does, on whichever thread it is polled -/
theorem C13_context_restored (t : Nat) (a call result : String) (body : List Blk) (s : Sys)
    (hok : Blk.okList t body = true)
    (hobs : (runO s ((Blk.adCall a call result body).flat t)).all Obs.isOk = true) (hg : Good (s.th t)) :
    ((runS s ((Blk.adCall a call result body).flat t)).th t).stack.frame = (s.th t).stack.frame ∧
    ((runS s ((Blk.adCall a call result body).flat t)).th t).guards = (s.th t).guards :=
  C10_frame_restored t (.adCall a call result body) s hok hobs hg

/-- which results finish a future adapter's span -/
theorem C13_finishes_iff (call result : String) :
    adFinishes .inSpan call result = (call == "poll" && result != "pending") ∧
    adFinishes .enterOnPoll call result = false := ⟨rfl, rfl⟩

/-- after a call that finishes, the adapter holds no span (so nothing can be finished twice);
    after a call that does not, it holds what it held -/
theorem C13_finish_once (s : Sys) (t : Nat) (a result call : String) (ad : Adapter) (g : Guard) (gs : List Guard)
    (ha : assocGet s.adapters a = some ad) (hg : (s.th t).guards = g :: gs) (hc : ad.inCall = some call) :
    ∃ ad', assocGet (s.adEnd t a result).1.adapters a = some ad' ∧ ad'.inCall = none ∧
      ad'.span = (if adFinishes ad.kind call result then none else ad.span) := by
  rw [s.adEnd_eq t a result call ad g gs ha hg hc]
  by_cases hf : adFinishes ad.kind call result = true
  · rw [if_pos hf, if_pos hf]
    exact ⟨_, by rw [Sys.dropSpanVal_adapters]; exact assocGet_assocSet_same _ _ _, rfl, rfl⟩
  · rw [if_neg hf, if_neg hf]
    exact ⟨_, assocGet_assocSet_same _ _ _, rfl, rfl⟩

/-- dropping the adapter finishes the span iff the adapter still holds it -/
theorem C13_drop_finishes_if_held (s : Sys) (t : Nat) (a : String) (ad : Adapter)
    (ha : assocGet s.adapters a = some ad) :
    (exec s t (.adDrop a)).1 =
      (match ad.span with
       | some sv => ({ s with adapters := assocDel s.adapters a } : Sys).dropSpanVal t sv
       | none => { s with adapters := assocDel s.adapters a }) := by
  dsimp only [exec]; rw [ha]; dsimp only
  cases ad.span <;> rfl

/-- **the guard goes first**: when a call finishes the adapter, the state after it is
    "close the guard (submits the scope's local spans), then drop the span (submit, and commit
    for a root)" — in this order, in the calling thread's queue -/
theorem C13_guard_before_span (s : Sys) (t : Nat) (a result call : String) (ad : Adapter) (g : Guard) (gs : List Guard)
    (sv : SpanVal) (ha : assocGet s.adapters a = some ad) (hg : (s.th t).guards = g :: gs)
    (hc : ad.inCall = some call) (hs : ad.span = some sv) (hf : adFinishes ad.kind call result = true) :
    (s.adEnd t a result).1 =
      (let s1 := (s.setTh t { s.th t with guards := gs }).closeGuard t g
       ({ s1 with adapters := assocSet s1.adapters a { ad with span := none, inCall := none } } : Sys).dropSpanVal t sv) := by
  rw [s.adEnd_eq t a result call ad g gs ha hg hc, hf, hs]; rfl

/-- `enter_on_poll`: the poll opens one local span named as configured, under the local parent
    in effect (the current span line), exactly like `LocalSpan::enter_with_local_parent` -/
theorem C13_enter_on_poll (s : Sys) (t : Nat) (a call : String) (ad : Adapter)
    (ha : assocGet s.adapters a = some ad) (hk : ad.kind = .enterOnPoll) :
    ((s.adPoll t a call).1.th t).loc = ((exec s t (.localEnter ad.name)).1.th t).loc :=
  congrArg Th.loc ((s.adPoll_th t a call ad ha).trans (if_pos hk))

end Fastrace
