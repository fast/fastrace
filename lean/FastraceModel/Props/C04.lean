import FastraceModel.Lemmas.Groups

/-!
# C04 — `cancel()` suppresses the whole trace and nothing else

Collector level (every state, every batch):
* cancelable: a consumed `drop id` removes the trace's entry before the batch's submits and
  commits are looked at, so nothing is emitted for `id` in that cycle — not even when the
  root's commit is in the same batch — and `id` is not retained (`C04_dropped_not_emitted`);
  later span sets for `id` find no entry and are discarded (`C04_late_submits_discarded`);
* other ids are untouched by the drop: what is buffered for and routed to them is the same
  as without it (`C04_others_unaffected`);
* default configuration: drop commands change nothing at all (`C04_noop_default`, D9 fix);
* API: `cancel()` on a no-op span sends nothing (`C16_cancel_noop`, `Props/C16.lean`); on a
  non-root span it is the `collectId = none` arm of `exec`.

"Once `cancel()` has been *called*" needs the drop to be handled no later than the commit:
same thread → per-thread FIFO incl. parked commands (C09, D2 fix; over whole programs
`Fifo_no_overtaking`, `Props/Fifo.lean`); across threads the drop, pushed before the commit, is
drained no later than it by the second drain pass (D4 repair, `C03_second_pass_collects_all`) and a
drop seen before the trace's `start` waits for the next cycle (D14 repair,
`C03_second_pass_waits_for_start`); a drop that could not be pushed at all because the calling
thread's queue was full is noted in `PARKED_CANCELS` and handled by the collector before the
commit (D21 repair, `C04_parked_cancel_suppresses`, `Props/Parked.lean`).  A thread that exits
with a full queue loses its parked commands (D3): for a cancel the note survives.
-/
namespace Fastrace

/-- **suppressed**: nothing is emitted for a dropped id, and it is not retained -/
theorem C04_dropped_not_emitted (conv : Nat → Nat) (c : Coll) (batch : List Cmd)
    (hr : c.hasReporter = true) (hc : c.cancelable = true) (id : Nat) (hd : id ∈ dropsOf batch) :
    (∀ g ∈ commitGroups (afterSubmits c batch).1 (commitsOf batch), g.1 ≠ id) ∧
    id ∉ (cycleProcess conv c batch).1.keys :=
  suppressed_of_not_active conv c batch hr id fun h => ((afterSubmits_keys c batch id).mp h).2 hc hd

/-- span sets that arrive for an id that is not active are discarded when cancelable:
    they reach neither an entry nor the stale list -/
theorem C04_late_submits_discarded (spans : SpanSet) (st : Coll × List Collection) (it : TokenItem)
    (hn : st.1.find? it.collectId = none) : submitItem true spans st it = st := by
  simp [submitItem, hn]

/-- **and nothing else**: for every other id the drop makes no difference -/
theorem C04_others_unaffected (c : Coll) (id id2 : Nat) (hne : id2 ≠ id) :
    (c.remove id).find? id2 = c.find? id2 := by
  rw [Coll.find?_remove, if_neg hne]

/-- default configuration: drop commands are ignored -/
theorem C04_noop_default (c : Coll) (batch : List Cmd) (hc : c.cancelable = false) :
    phaseDrops (phaseStarts c batch) batch = phaseStarts c batch :=
  phaseDrops_default _ batch ((phaseStarts_cancelable c batch).trans hc)

def notDrop : Cmd → Bool
  | .drop _ => false
  | _ => true

/-- hence in the default configuration a cycle's result does not depend on the batch's drop
    commands: removing them all changes nothing -/
theorem C04_noop_default_cycle (conv : Nat → Nat) (c : Coll) (batch : List Cmd) (hc : c.cancelable = false) :
    cycleProcess conv c batch = cycleProcess conv c (batch.filter notDrop) := by
  -- a selector that ignores cancels does not see their removal
  have sel {β} {f : Cmd → Option β} (hf : ∀ id, f (.drop id) = none) :
      (batch.filter notDrop).filterMap f = batch.filterMap f := by
    rw [List.filterMap_filter]
    refine congrArg (List.filterMap · batch) (funext fun x => ?_)
    cases x with
    | drop id => exact (hf id).symm
    | _ => rfl
  have hs : startsOf (batch.filter notDrop) = startsOf batch := sel fun _ => rfl
  have hu : submitsOf (batch.filter notDrop) = submitsOf batch := sel fun _ => rfl
  have hm : commitsOf (batch.filter notDrop) = commitsOf batch := sel fun _ => rfl
  cases hr : c.hasReporter with
  | false => rw [cycleProcess_off _ _ _ hr, cycleProcess_off _ _ _ hr]
  | true =>
    have e : afterSubmits c (batch.filter notDrop) = afterSubmits c batch := by
      rw [afterSubmits, afterSubmits, C04_noop_default c _ hc, C04_noop_default c _ hc, hu, phaseStarts, phaseStarts, hs]
    rw [cycleProcess_eq _ _ _ hr, cycleProcess_eq _ _ _ hr, afterCommits, afterCommits, e, hm]

end Fastrace
