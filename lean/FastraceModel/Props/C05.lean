import FastraceModel.Lemmas.ProvOps

/-!
# C05 — unsampled traces are never delivered and the decision propagates

* the sampling flag of a token item is only ever **copied** (`issueToken`,
  `SpanLine.currentToken`), never changed;
* an unsampled root sends no `start` and carries the reserved collect id;
* `submit_spans` removes unsampled items and sends nothing if none remain — so no command
  that reaches the collector mentions an unsampled item, and a span with sampled and
  unsampled parents is submitted for exactly its sampled parents;
* the collector only emits records under the `(trace, parent)` of submitted items (C02 §3).

These step facts are composed into one **whole-program theorem**
(`C05_only_sampled_roots_delivered`): for every program over the modelled API (all operations of
`Model/Api.lean`: spans, multi-parent spans, local scopes, collectors, adapters, thread exit,
overload, stepped collector drains — any interleaving of any number of threads) every record of
every report carries a trace id that was supplied to a **sampled** `root` operation of that
program.  The proof is an invariant (`Prov`, `Lemmas/Prov*.lean`) over all places that can hold a
token or a command — span handles, adapters, span lines, rings, overflow lists, the drain buffer,
buffered collections — preserved by every operation.
-/
namespace Fastrace

/-- tokens issued by a span copy every item's trace id, collect id and sampling flag -/
theorem C05_issue_copies_flag (sp : SpanInner) :
    (issueToken sp).map (fun it => (it.traceId, it.collectId, it.isSampled))
      = sp.token.map (fun it => (it.traceId, it.collectId, it.isSampled)) := by
  rw [issueToken, List.map_map]; rfl

/-- so does the token of the current scope -/
theorem C05_scope_copies_flag (l : SpanLine) (tok : Token) (h : l.token = some tok) :
    ∃ tok', l.currentToken = some tok' ∧
      tok'.map (fun it => (it.traceId, it.collectId, it.isSampled))
        = tok.map (fun it => (it.traceId, it.collectId, it.isSampled)) := by
  refine ⟨tok.map fun it => { it with parentId := l.queue.nextParent.getD it.parentId }, ?_, ?_⟩
  · simp [SpanLine.currentToken, h]
  · simp

/-- a scope records local spans iff **some** parent is sampled -/
theorem C05_scope_sampled_any (cap epoch : Nat) (tok : Token) :
    (SpanLine.new cap epoch (some tok)).isSampled = tok.any (·.isSampled) := rfl

/-- an unsampled scope records nothing: local spans, events, properties leave it unchanged
    and draw no id -/
theorem C05_unsampled_scope_inert (l : SpanLine) (c : Ctr) (n : String) (p : Option Props) (kvs : Props)
    (h : l.isSampled = false) :
    l.startSpan c n = none ∧ l.addEvent c n p = (l, c) ∧ l.addProps c kvs = (l, c) := by
  simp [SpanLine.startSpan, SpanLine.addEvent, SpanLine.addProps, h]

/-- an unsampled root sends **nothing** on creation (no `start`), and its token item is the
    unsampled one with the reserved collect id -/
theorem C05_unsampled_root (s : Sys) (t : Nat) (v n : String) (tr sp : Nat) (hr : s.reporterReady = true) :
    (exec s t (.root v n tr sp false)).1.rxs = s.rxs ∧
    (exec s t (.root v n tr sp false)).1.nextCollect = s.nextCollect ∧
    ∃ inner, assocGet (exec s t (.root v n tr sp false)).1.spans v = some (some inner) ∧
      inner.token = [⟨tr, sp, Consts.notSampledCollectId, true, false⟩] := by
  dsimp only [exec]
  simp [Sys.rootOp, hr, Sys.newSpan, assocGet_assocSet_same]

/-- **the filter**: what `submit_spans` hands to the channel contains sampled items only, in
    order, and nothing is handed over when no item is sampled -/
theorem C05_submit_filters (s : Sys) (t : Nat) (spans : SpanSet) (tok : Token) :
    s.submitSpans t spans tok =
      if (tok.filter (·.isSampled)).isEmpty then s
      else s.sendCmd t (.submit spans (tok.filter (·.isSampled))) false := rfl

theorem C05_filter_sampled_only (tok : Token) : ∀ it ∈ tok.filter (·.isSampled), it.isSampled = true := by
  intro it h; exact (List.mem_filter.mp h).2

/-- a span all of whose parents are unsampled submits nothing when it finishes -/
theorem C05_all_unsampled_silent (s : Sys) (t : Nat) (spans : SpanSet) (tok : Token)
    (h : ∀ it ∈ tok, it.isSampled = false) : s.submitSpans t spans tok = s := by
  have : tok.filter (·.isSampled) = [] := List.filter_eq_nil_iff.mpr fun it hit => by rw [h it hit]; exact Bool.false_ne_true
  rw [C05_submit_filters, this]; rfl

/-- contexts carry the flag of the item they are read from -/
theorem C05_ctx_flag (tok : Token) (it : TokenItem) (rest : Token) (h : tok = it :: rest) :
    ctxOfToken tok = some ⟨it.traceId, it.parentId, it.isSampled⟩ := by
  subst h; rfl

/-- the collector never invents a trace id: every record core of a cycle's collections has
    the trace id of its collection, which is the trace id of a submitted (hence sampled) item -/
theorem C05_records_only_for_submitted (conv : Nat → Nat) (col : Collection) :
    ∀ k ∈ collectionCores conv col, k.traceId = col.traceId :=
  collectionCores_trace conv col

/-- **whatever the program, only sampled roots' traces reach the reporter**: every record of
    every report returned by any operation of any program carries a trace id supplied to a
    `root … sampled=true` operation of that program -/
theorem C05_only_sampled_roots_delivered (p : Program) :
    ∀ o ∈ (run Sys.init p).2, ∀ rs, o = .report (some rs) → ∀ r ∈ rs, r.traceId ∈ sampledRootTraces p :=
  fun o ho rs hrs => (run_prov_init p o ho).1 rs hrs

/-- **the sampling decision propagates to every extracted context, whatever the program**:
    a context returned by `SpanContext::from_span` / `current_local_parent` anywhere in any
    program carries `sampled = true` only with the trace id of a sampled root, and
    `sampled = false` only with the trace id of an unsampled root -/
theorem C05_contexts_carry_decision (p : Program) :
    ∀ o ∈ (run Sys.init p).2, ∀ c, o = .ctx (some c) →
      (c.sampled = true → c.traceId ∈ sampledRootTraces p) ∧ (c.sampled = false → c.traceId ∈ unsampledRootTraces p) :=
  fun o ho c hc => (run_prov_init p o ho).2 c hc

/-- a context of a trace that has no sampled root says `sampled = false` -/
theorem C05_unsampled_context (p : Program) (tr : Nat) (h : tr ∉ sampledRootTraces p) :
    ∀ o ∈ (run Sys.init p).2, ∀ c, o = .ctx (some c) → c.traceId = tr → c.sampled = false := by
  intro o ho c hc htr
  cases hs : c.sampled with
  | false => rfl
  | true => exact absurd (htr ▸ (C05_contexts_carry_decision p o ho c hc).1 hs) h

/-- **an unsampled trace produces no reporter output at all**: if no sampled root of the
    program uses trace id `tr` (the trace's roots are all created with `sampled = false`), no
    report of the program ever contains a record of trace `tr` — not the root, no descendant
    on any thread, no local span, no attached set, no copy of a multi-parent span -/
theorem C05_unsampled_trace_silent (p : Program) (tr : Nat)
    (h : ∀ x ∈ p, ∀ v n sp, x.2 ≠ .root v n tr sp true) :
    ∀ o ∈ (run Sys.init p).2, ∀ rs, o = .report (some rs) → ∀ r ∈ rs, r.traceId ≠ tr := by
  intro o ho rs hrs r hr e
  obtain ⟨x, hx, hin⟩ := List.mem_flatMap.mp (e ▸ C05_only_sampled_roots_delivered p o ho rs hrs r hr)
  obtain ⟨v, n, sp, hop⟩ := mem_opTraces.mp hin
  exact h x hx v n sp hop

/-! non-vacuity of the whole-program theorems: a program with a sampled trace (7) and an
unsampled one (9, with a child); the one report holds trace 7 only -/
def c05Prog : Program :=
  [(0, .spawn), (0, .setReporter false), (0, .root "a" "ra" 7 0 true), (0, .root "b" "rb" 9 0 false),
   (0, .child1 "c" "cb" "b"), (0, .drop "c"), (0, .drop "b"), (0, .drop "a"), (0, .cycle)]
example : ((run Sys.init c05Prog).2.filterMap fun | .report (some rs) => some (rs.map (·.traceId)) | _ => none)
    = [[7]] := rfl
example : sampledRootTraces c05Prog = [7] ∧ unsampledRootTraces c05Prog = [9] := ⟨rfl, rfl⟩
/-- … and a context extracted from the unsampled trace's child says (9, sampled = false) -/
example : ((run Sys.init (c05Prog.take 5 ++ [(0, .ctxOf "c")])).2.filterMap fun
    | .ctx (some c) => some (c.traceId, c.sampled) | _ => none) = [(9, false)] := rfl

/-! non-vacuity: a mixed parent set keeps its sampled parent only -/
example : ([⟨1, 2, 0, false, true⟩, ⟨3, 4, Consts.notSampledCollectId, false, false⟩] : Token).filter (·.isSampled)
    = [⟨1, 2, 0, false, true⟩] := rfl

end Fastrace
