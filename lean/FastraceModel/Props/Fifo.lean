import FastraceModel.Lemmas.FifoCycle
import FastraceModel.Props.E2E

/-!
# Per-thread order of the command channel (C09, C04)

For **every program** (any interleaving of any operations on any number of threads, with stepped
collector cycles in between), and every thread that has not exited:

    what the thread's channel accepted, oldest first
      = what the collector has popped from that thread's ring, oldest first
        ++ what is in the ring ++ what is parked in the overflow list.

So nothing a live thread's channel accepted is dropped, duplicated or overtaken on its way to
the collector (C09), and in particular a cancel is popped before the commit the same thread
sent after it (C04).  No bound on the program, the number of threads or the queue contents.
-/
namespace Fastrace

/-- what thread `t`'s channel accepted, oldest first -/
def Sys.acceptedOf (s : Sys) (t : Nat) : List Cmd := (byT t s.g.acceptedBy).reverse
/-- what the collector has popped from thread `t`'s ring, oldest first -/
def Sys.drainedOf (s : Sys) (t : Nat) : List Cmd := (byT t s.g.drainedBy).reverse

theorem Fifo_invariant (p : Program) : FifoInv (run Sys.init p).1 :=
  run_fifo p Sys.init ChanInv.init FifoInv.init

/-- **accepted = drained ++ ring ++ overflow, in order, for every live thread** -/
theorem Fifo_per_thread_order (p : Program) (t : Nat) (ha : ((run Sys.init p).1.th t).alive = true) :
    (run Sys.init p).1.acceptedOf t
      = (run Sys.init p).1.drainedOf t ++ (run Sys.init p).1.ringQ t ++ ((run Sys.init p).1.th t).pending :=
  (Fifo_invariant p).order t ha

/-- what has been popped is a prefix of what was accepted: no command of a live thread is
    dropped, duplicated or overtaken by a later one -/
theorem Fifo_drained_is_prefix (p : Program) (t : Nat) (ha : ((run Sys.init p).1.th t).alive = true) :
    (run Sys.init p).1.drainedOf t <+: (run Sys.init p).1.acceptedOf t := by
  rw [Fifo_per_thread_order p t ha, List.append_assoc]
  exact List.prefix_append _ _

/-- the `i`-th command popped from a live thread's ring is the `i`-th command its channel accepted -/
theorem Fifo_same_position (p : Program) (t : Nat) (ha : ((run Sys.init p).1.th t).alive = true)
    (i : Nat) (hi : i < ((run Sys.init p).1.drainedOf t).length) :
    ((run Sys.init p).1.drainedOf t)[i]? = ((run Sys.init p).1.acceptedOf t)[i]? := by
  obtain ⟨rest, hrest⟩ := Fifo_drained_is_prefix p t ha
  rw [← hrest, List.getElem?_append_left hi]

/-- **no overtaking (C04: a cancel is consumed no later than the commit sent after it):** if a
    live thread's channel accepted `a` and later `b`, and `b` has been popped, then `a` was
    popped before it -/
theorem Fifo_no_overtaking (p : Program) (t : Nat) (ha : ((run Sys.init p).1.th t).alive = true)
    (pre mid post : List Cmd) (a b : Cmd)
    (hacc : (run Sys.init p).1.acceptedOf t = pre ++ a :: mid ++ b :: post)
    (hb : pre.length + 1 + mid.length < ((run Sys.init p).1.drainedOf t).length) :
    ∃ rest, (run Sys.init p).1.drainedOf t = pre ++ a :: mid ++ b :: rest := by
  obtain ⟨tail, htail⟩ := Fifo_drained_is_prefix p t ha
  generalize (run Sys.init p).1.drainedOf t = d at *
  generalize (run Sys.init p).1.acceptedOf t = acc at *
  subst hacc
  -- d is a prefix of pre ++ a :: mid ++ b :: post longer than pre ++ a :: mid
  have hlen : (pre ++ a :: mid ++ [b]).length ≤ d.length := by
    rw [List.length_append, List.length_append, List.length_cons, List.length_singleton]; omega
  have h1 : d ++ tail = (pre ++ a :: mid ++ [b]) ++ post := by rw [htail, List.append_assoc _ [b] post]; rfl
  have hp : (pre ++ a :: mid ++ [b]) <+: d := by
    have hd : d <+: (pre ++ a :: mid ++ [b]) ++ post := ⟨tail, h1⟩
    have hx : (pre ++ a :: mid ++ [b]) <+: (pre ++ a :: mid ++ [b]) ++ post := List.prefix_append _ _
    exact List.prefix_of_prefix_length_le hx hd hlen
  obtain ⟨rest, hrest⟩ := hp
  exact ⟨rest, by rw [← hrest, List.append_assoc _ [b] rest]; rfl⟩

/-- every command a live thread's channel accepted is, at any moment, in exactly one place -/
theorem Fifo_count (p : Program) (t : Nat) (ha : ((run Sys.init p).1.th t).alive = true) :
    ((run Sys.init p).1.acceptedOf t).length
      = ((run Sys.init p).1.drainedOf t).length + ((run Sys.init p).1.ringQ t).length
        + ((run Sys.init p).1.th t).pending.length := by
  rw [Fifo_per_thread_order p t ha, List.length_append, List.length_append]

/-- at most one ring per thread, and only registered threads have one -/
theorem Fifo_one_ring_per_thread (p : Program) : (run Sys.init p).1.ringKeys.Nodup :=
  (Fifo_invariant p).nodup

/-! ### non-vacuity -/

def fifoDemo : Program :=
  (0, .setReporter false) :: demoProgram ++ [(0, .cycBegin), (0, .cycStep), (1, .spawn)]

/-- the final state of `fifoDemo`, evaluated once -/
theorem fifoDemo_final :
    ((run Sys.init fifoDemo).1.th 0).alive = true ∧ ((run Sys.init fifoDemo).1.acceptedOf 0).length = 3 ∧
    ((run Sys.init fifoDemo).1.drainedOf 0).length = 3 ∧ ((run Sys.init fifoDemo).1.acceptedOf 1).length = 1 ∧
    ((run Sys.init fifoDemo).1.ringQ 1).length = 1 := by decide

example : ((run Sys.init fifoDemo).1.th 0).alive = true := fifoDemo_final.1
example : ((run Sys.init fifoDemo).1.acceptedOf 0).length = 3 := fifoDemo_final.2.1
example : ((run Sys.init fifoDemo).1.drainedOf 0).length = 3 := fifoDemo_final.2.2.1
example : ((run Sys.init fifoDemo).1.acceptedOf 1).length = 1 := fifoDemo_final.2.2.2.1
example : ((run Sys.init fifoDemo).1.ringQ 1).length = 1 := fifoDemo_final.2.2.2.2

end Fastrace
