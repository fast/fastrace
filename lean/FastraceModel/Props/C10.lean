import FastraceModel.Lemmas.FrameBlocks
import FastraceModel.Props.C16

/-!
# C10 — local parent scopes nest and restore exactly

`C10_frame`: for **every** well-nested piece of a thread's program — scopes opened by
`set_local_parent`, local spans, local collectors, nested to any depth and in any order, with
arbitrary other operations in between (span creation, attachments, closures that re-enter the
API, collector cycles, operations of *other* threads including their own scopes) — the
thread's local context after the piece is exactly what it was before: same open scopes, same
tokens, same sampling decisions, same innermost open local span in every scope.  Everything a
later operation can observe of the local context is a function of that frame
(`C10_observations_of_frame`).  Holds at the limits too (a scope or span that could not be
registered is a no-op on both sides).

`C10_other_threads`: an operation never changes another thread's local state.
`C10_inert`: with no local parent in scope, local-span operations do nothing.
-/
namespace Fastrace

/-- well-nested programs of thread `t`, with anything else in between -/
inductive Blk where
  | op (t' : Nat) (o : Op)                         -- any operation of any thread (see `Blk.ok`)
  | scope (v : String) (body : List Blk)           -- `let g = v.set_local_parent(); body; drop(g)`
  | localSpan (n : String) (body : List Blk)       -- `let s = LocalSpan::enter…(n); body; drop(s)`
  | collector (body : List Blk) (fin : Option String)  -- `LocalCollector::start(); body; drop / collect()`
  | adCall (a call result : String) (body : List Blk)  -- one method call on an adapter; `body` = what the inner does

mutual
def Blk.flat (t : Nat) : Blk → Program
  | .op t' o => [(t', o)]
  | .scope v body => (t, .scope v) :: (Blk.flatList t body ++ [(t, .close)])
  | .localSpan n body => (t, .localEnter n) :: (Blk.flatList t body ++ [(t, .close)])
  | .collector body fin =>
    (t, .collectorStart) :: (Blk.flatList t body ++ [(t, match fin with | none => Op.close | some x => Op.collect x)])
  | .adCall a call result body => (t, .adPoll a call) :: (Blk.flatList t body ++ [(t, .adEnd a result)])
def Blk.flatList (t : Nat) : List Blk → Program
  | [] => []
  | b :: bs => Blk.flat t b ++ Blk.flatList t bs
end

mutual
/-- single operations are of another thread, or do not open/close a guard of thread `t` -/
def Blk.ok (t : Nat) : Blk → Bool
  | .op t' o => t' != t || isPlain o
  | .scope _ body => Blk.okList t body
  | .localSpan _ body => Blk.okList t body
  | .collector body _ => Blk.okList t body
  | .adCall _ _ _ body => Blk.okList t body
def Blk.okList (t : Nat) : List Blk → Bool
  | [] => true
  | b :: bs => Blk.ok t b && Blk.okList t bs
end

mutual
theorem C10_frame (t : Nat) : ∀ (b : Blk) (s : Sys), b.ok t = true →
    (runO s (b.flat t)).all Obs.isOk = true → Good (s.th t) →
    Pres (s.th t) ((runS s (b.flat t)).th t)
  | .op t' o => fun s hok _ hg => by
    simp only [Blk.flat, runS_cons, runS_nil]
    simp only [Blk.ok, Bool.or_eq_true, bne_iff_ne] at hok
    by_cases e : t' = t
    · subst e
      exact exec_plain_pres s t' o (hok.resolve_left (fun h => h rfl)) hg
    · rw [exec_th_other s t' t o (fun h => e h.symm)]
      exact Pres.refl _
  | .scope v body => fun s hok hobs hg =>
    frame_bracket (scope_opens t v) (close_closes t) _ s (fun s1 => C10_frameList t body s1 hok) hobs hg
  | .localSpan n body => fun s hok hobs hg =>
    frame_bracket (localEnter_opens t n) (close_closes t) _ s (fun s1 => C10_frameList t body s1 hok) hobs hg
  | .collector body none => fun s hok hobs hg =>
    frame_bracket (collectorStart_opens t) (close_closes t) _ s (fun s1 => C10_frameList t body s1 hok) hobs hg
  | .collector body (some x) => fun s hok hobs hg =>
    frame_bracket (collectorStart_opens t) (collect_closes t x) _ s (fun s1 => C10_frameList t body s1 hok) hobs hg
  | .adCall a call result body => fun s hok hobs hg =>
    frame_bracket (adPoll_opens t a call) (adEnd_closes t a result) _ s (fun s1 => C10_frameList t body s1 hok) hobs hg
theorem C10_frameList (t : Nat) : ∀ (bs : List Blk) (s : Sys), Blk.okList t bs = true →
    (runO s (Blk.flatList t bs)).all Obs.isOk = true → Good (s.th t) →
    Pres (s.th t) ((runS s (Blk.flatList t bs)).th t)
  | [] => fun s _ _ _ => Pres.refl _
  | b :: bs => fun s hok hobs hg => by
    simp only [Blk.okList, Bool.and_eq_true] at hok
    simp only [Blk.flatList, runO_append, List.all_append, Bool.and_eq_true] at hobs ⊢
    rw [runS_append]
    have p1 := C10_frame t b s hok.1 hobs.1 hg
    exact p1.trans (C10_frameList t bs _ hok.2 hobs.2 (hg.of_pres p1))
end

/-- corollary in the property's words: the frame — and hence `current_local_parent()`, the
    token of a subsequently created span, and the scope / parent a subsequent local span,
    event or property attaches to — is restored -/
theorem C10_frame_restored (t : Nat) (b : Blk) (s : Sys) (hok : b.ok t = true)
    (hobs : (runO s (b.flat t)).all Obs.isOk = true) (hg : Good (s.th t)) :
    ((runS s (b.flat t)).th t).stack.frame = (s.th t).stack.frame ∧
    ((runS s (b.flat t)).th t).guards = (s.th t).guards :=
  ⟨(C10_frame t b s hok hobs hg).frame, (C10_frame t b s hok hobs hg).1⟩

/-- what later operations see of the local context depends on the frame only -/
theorem C10_observations_of_frame (a b : Stack) (h : a.frame = b.frame) :
    a.currentToken = b.currentToken ∧ a.isSampled = b.isSampled := by
  obtain ⟨la, _, _⟩ := a
  obtain ⟨lb, _, _⟩ := b
  rcases la with _ | ⟨l, ls⟩ <;> rcases lb with _ | ⟨m, ms⟩
  · exact ⟨rfl, rfl⟩
  · cases h
  · cases h
  · have h1 := (List.cons.inj h).1
    rw [Prod.mk.injEq, Prod.mk.injEq, Prod.mk.injEq] at h1
    obtain ⟨_, h2, h3, h4⟩ := h1
    exact ⟨show l.currentToken = m.currentToken by rw [SpanLine.currentToken, h2, h4]; rfl, h3⟩

theorem C10_other_threads (s : Sys) (t t2 : Nat) (op : Op) (h : t2 ≠ t) :
    (exec s t op).1.th t2 = s.th t2 := exec_th_other s t t2 op h

/-- with no local parent in scope, local-span operations are inert -/
theorem C10_inert (s : Sys) (t : Nat) (hs : (s.th t).stack.lines = []) (name : String) (cl : Closure) :
    exec s t (.lAddProps cl) = (s, .closure false) ∧ exec s t .ctxLocal = (s, .ctx none) ∧
    ((exec s t (.localEnter name)).1.th t).stack = (s.th t).stack :=
  let h := C16_local_inert s t hs name cl none
  ⟨h.1, h.2.1, h.2.2.2.1⟩

/-- the hypothesis `Good` holds for every thread of the initial state (prefix `t+1`, no scope) -/
theorem C10_good_initially (t : Nat) : Good (Sys.init.th t) :=
  ⟨Nat.succ_pos t, fun _ h => (List.not_mem_nil h).elim⟩

/-! non-vacuity: a nested program satisfying `ok`, run from a state with a reporter -/
example : (Blk.scope "r" [.localSpan "a" [.op 0 (.lAddEvent "e" none), .scope "r" [.op 1 .close]],
    .collector [.localSpan "b" []] (some "x"), .adCall "f" "poll" "pending" [.localSpan "c" []]]).ok 0 = true := by decide

end Fastrace
