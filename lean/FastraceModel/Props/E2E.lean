import FastraceModel.Lemmas.FlowCycle
import FastraceModel.Props.C01

/-!
# End to end over whole programs (C01, C09, C08): nothing accepted is lost or duplicated

The theorems of `Props/C01.lean` speak about one collector cycle and one drained batch.  This
file composes them, over **every program of the model** (`run Sys.init p` — every operation,
every thread, every placement of whole and stepped collector cycles, overload, thread exit),
with the history variables of `Sys.g`:

* `E2E_conservation` — in every reachable state, for every weight function (so: for the
  multiplicity of every single command), the commands the channels accepted, together with the
  cancels the collector derived from `PARKED_CANCELS`, are exactly the commands in flight +
  consumed by the processing loops + drained without a reporter + lost by `Sender::drop` on a
  full ring (finding D3).  Nothing else ever leaves a channel.
* `E2E_overflow_only_signals` — an overflow list only holds finish / cancel signals; a span set
  is either accepted into the ring at once or refused because the ring is full (C09's
  "omission only").
* `E2E_default_reports_consumed` — in the default configuration (no `setReporter true` in the
  program) the records reported so far are, up to order, exactly the records of the span sets
  consumed so far, one copy per token item: reported exactly once, nothing invented.
* `E2E_flush_delivers` — after a `flush` (a whole cycle) no span set is in flight: every span
  set a channel ever accepted has been consumed, hence (default configuration,
  `E2E_default_flush_exactly_once`) reported exactly once — "at the latest when a `flush()`
  called afterwards returns".
* `E2E_nothing_invented` — in either configuration every reported record is a record of a copy of
  a span set the processing loops were handed (invariant `Sound`).

The invariants `Dflt`, `Sound`, `HasRep` read only the collector and the logs of consumed and
reported commands; they ride on `exec_collInv` (`Lemmas/FlowOps.lean`).

What is *not* here: that a submit is *accepted* unless the ring is full (per call, on the stepped
channel model: `Chan.C09_lossy_only_when_full`, `Props/C09.lean`); the wall-clock clause; the memory
model of `rtrb`.
-/
namespace Fastrace

/-! ### the default configuration: reported = records of consumed -/

structure Dflt (s : Sys) : Prop where
  nc : s.coll.cancelable = false
  flushed : Flushed s.coll
  nodup : KeysNodup s.coll
  rep : (s.g.reported.map Record.core).Perm ((submitted (submitsOf s.g.consumed)).flatMap (collectionCores id))

theorem Dflt.init : Dflt Sys.init := ⟨rfl, fun _ he => (nomatch he), List.nodup_nil, .nil⟩

theorem Dflt.frame {s s' : Sys} (hc : s'.coll = s.coll) (h2 : s'.g.consumed = s.g.consumed) (h3 : s'.g.reported = s.g.reported)
    (_ : s'.g.discarded = s.g.discarded) (h : Dflt s) : Dflt s' :=
  ⟨hc ▸ h.nc, hc ▸ h.flushed, hc ▸ h.nodup, by rw [h2, h3]; exact h.rep⟩

theorem submitsOf_append (a b : List Cmd) : submitsOf (a ++ b) = submitsOf a ++ submitsOf b :=
  List.filterMap_append

theorem submitted_append (a b : List (SpanSet × Token)) : submitted (a ++ b) = submitted a ++ submitted b :=
  List.flatMap_append

theorem Dflt.finishCycle {s : Sys} (h : Dflt s) (kept : List (Nat × Ring Cmd)) (buf buf2 : List Cmd) :
    Dflt (s.finishCycle kept buf buf2).1 := by
  cases hr : s.coll.hasReporter with
  | false => rw [Sys.finishCycle_off hr]; exact ⟨h.nc, h.flushed, h.nodup, h.rep⟩
  | true =>
    rw [Sys.finishCycle_on hr]
    obtain ⟨recs, e, p, fl, nd⟩ := C01_cycle_reports_everything_once id s.coll (s.cycleBatch buf buf2) hr h.nc h.flushed h.nodup
    refine ⟨(cycleProcess_cancelable ..).trans h.nc, fl, nd, ?_⟩
    rw [e, List.map_append, submitsOf_append, submitted_append, List.flatMap_append]
    exact p.append h.rep

theorem Dflt.cycStep {s : Sys} (h : Dflt s) : Dflt s.cycStep.1 := collInv_cycStep Dflt.frame Dflt.finishCycle h

theorem Dflt.cycBegin {s : Sys} (h : Dflt s) : Dflt s.cycBegin.1 := by
  obtain ⟨c, e⟩ := s.cycBegin_frame
  rw [e]; exact Dflt.frame (s := s) rfl rfl rfl rfl h

theorem exec_dflt (s : Sys) (t : Nat) (op : Op) (hop : op ≠ .setReporter true) (h : Dflt s) : Dflt (exec s t op).1 :=
  exec_collInv Dflt.frame Dflt.finishCycle t op h fun c e => by
    cases c with
    | true => exact absurd e hop
    | false => exact ⟨rfl, h.flushed, h.nodup, h.rep⟩

def Program.isDefault (p : Program) : Prop := ∀ x ∈ p, x.2 ≠ Op.setReporter true

theorem run_dflt (p : Program) (s : Sys) (hp : Program.isDefault p) (h : Dflt s) : Dflt (run s p).1 :=
  run_inv p (fun s t op hm => exec_dflt s t op (hp (t, op) hm)) s h

/-! ### nothing is invented, in either configuration -/

/-- "is a copy (one per token item) of a span set the processing loops have been handed" -/
def Consumed (s : Sys) (col : Collection) : Prop := col ∈ submitted (submitsOf s.g.consumed)

structure Sound (s : Sys) : Prop where
  buf : ColsIn (Consumed s) s.coll
  rep : RecsFrom id (Consumed s) s.g.reported

theorem Sound.init : Sound Sys.init := ⟨fun _ hc => (nomatch hc), fun _ hk => (nomatch hk)⟩

theorem Sound.of_fields {s s' : Sys} (h : Sound s) (h1 : allCols s'.coll.active = allCols s.coll.active)
    (h2 : s'.g.consumed = s.g.consumed) (h3 : s'.g.reported = s.g.reported) : Sound s' := by
  refine ⟨?_, ?_⟩
  · unfold ColsIn Consumed; rw [h1, h2]; exact h.buf
  · unfold RecsFrom Consumed; rw [h2, h3]; exact h.rep

theorem Sound.finishCycle {s : Sys} (h : Sound s) (kept : List (Nat × Ring Cmd)) (buf buf2 : List Cmd) :
    Sound (s.finishCycle kept buf buf2).1 := by
  cases hr : s.coll.hasReporter with
  | false => rw [Sys.finishCycle_off hr]; exact ⟨h.buf, h.rep⟩
  | true =>
    rw [Sys.finishCycle_on hr]
    generalize s.cycleBatch buf buf2 = batch
    -- a copy of a span set consumed before, or submitted by this batch, is a copy of a span set consumed now
    have mono : ∀ col, (Consumed s col ∨ col ∈ submitted (submitsOf batch)) →
        col ∈ submitted (submitsOf (batch ++ s.g.consumed)) := fun col hc => by
      rw [submitsOf_append, submitted_append, List.mem_append]; exact hc.symm
    obtain ⟨a, b⟩ := cycle_sound (P := fun col => col ∈ submitted (submitsOf (batch ++ s.g.consumed))) id s.coll batch
      (fun col hc => mono col (.inl (h.buf col hc))) (fun col hc => mono col (.inr hc))
    refine ⟨a, fun k hk => ?_⟩
    rcases List.mem_append.mp (List.map_append ▸ hk) with hk | hk
    · cases hrep : (cycleProcess id s.coll batch).2 with
      | none => rw [hrep] at hk; cases hk
      | some recs => rw [hrep] at hk; exact b recs hrep k hk
    · obtain ⟨col, hc, hk⟩ := h.rep k hk
      exact ⟨col, mono col (.inl hc), hk⟩

theorem Sound.frame {s s' : Sys} (hc : s'.coll = s.coll) (h2 : s'.g.consumed = s.g.consumed) (h3 : s'.g.reported = s.g.reported)
    (_ : s'.g.discarded = s.g.discarded) (h : Sound s) : Sound s' := h.of_fields (by rw [hc]) h2 h3

theorem Sound.cycStep {s : Sys} (h : Sound s) : Sound s.cycStep.1 := collInv_cycStep Sound.frame Sound.finishCycle h

/-- every operation keeps the invariant — in either configuration, also across `set_reporter` calls -/
theorem exec_sound (s : Sys) (t : Nat) (op : Op) (h : Sound s) : Sound (exec s t op).1 :=
  exec_collInv Sound.frame Sound.finishCycle t op h fun _ _ => h.of_fields rfl rfl rfl

theorem run_sound (p : Program) (s : Sys) (h : Sound s) : Sound (run s p).1 :=
  run_inv p (fun s t op _ => exec_sound s t op) s h

/-- **nothing is invented, whatever the program and the configuration** (default, cancelable, or
    switching between them): every record ever reported is a record of a copy of a span set that the
    processing loops were handed — which, by `E2E_conservation`, some channel accepted — and
    everything the collector still buffers is such a copy too -/
theorem E2E_nothing_invented (p : Program) :
    let s := (run Sys.init p).1
    (∀ k ∈ s.g.reported.map Record.core, ∃ col ∈ submitted (submitsOf s.g.consumed), k ∈ collectionCores id col) ∧
    (∀ col ∈ allCols s.coll.active, col ∈ submitted (submitsOf s.g.consumed)) := by
  have h := run_sound p Sys.init Sound.init
  exact ⟨h.rep, h.buf⟩

/-- **conservation**: for every program and every weight function that counts span sets per token item,
    accepted (+ the cancel commands the collector derived from `PARKED_CANCELS`, D21)
      = in flight + consumed + discarded (no reporter) + lost at exit (D3) -/
theorem E2E_conservation (p : Program) (w : Cmd → Nat) (hw : Additive w) :
    let s := (run Sys.init p).1
    wsum w s.g.accepted + wsum w (s.g.injected.map Cmd.drop)
      = s.flow w + (wsum w s.g.consumed + wsum w s.g.discarded + wsum w s.g.lostAtExit) :=
  (run_chan p Sys.init ChanInv.init).cons w hw

theorem count_eq_wsum (c : Cmd) (l : List Cmd) : wsum (fun x => if x = c then 1 else 0) l = l.count c := by
  induction l with
  | nil => rfl
  | cons x xs ih =>
    rw [wsum_cons, ih, List.count_cons, Nat.add_comm]
    simp only [beq_iff_eq]

def Cmd.isSubmit : Cmd → Bool
  | .submit _ _ => true
  | _ => false

theorem additive_indicator (c : Cmd) (hc : c.isSubmit = false) : Additive (fun x => if x = c then 1 else 0) := by
  intro sp tok
  have h : ∀ tok, (Cmd.submit sp tok = c) = False := fun _ => eq_false fun e => by rw [← e] at hc; cases hc
  simp only [h, if_false]
  clear h
  induction tok with
  | nil => rfl
  | cons x xs ih => simpa using ih

/-- the same for the multiplicity of a single start / finish / cancel command -/
theorem E2E_conservation_count (p : Program) (c : Cmd) (hc : c.isSubmit = false) :
    let s := (run Sys.init p).1
    s.g.accepted.count c + (s.g.injected.map Cmd.drop).count c = s.flow (fun x => if x = c then 1 else 0)
      + (s.g.consumed.count c + s.g.discarded.count c + s.g.lostAtExit.count c) := by
  have := E2E_conservation p (fun x => if x = c then 1 else 0) (additive_indicator c hc)
  simp only [count_eq_wsum] at this
  exact this

/-- the number of copies of the collection `col` (span set, trace id, parent id) that a command submits -/
def colW (col : Collection) : Cmd → Nat
  | .submit sp tok => (tok.filter fun it => decide ((⟨sp, it.traceId, it.parentId⟩ : Collection) = col)).length
  | _ => 0

theorem length_filter_eq_sum {α : Type} (p : α → Bool) (l : List α) :
    (l.filter p).length = (l.map fun a => ([a].filter p).length).sum := by
  induction l with
  | nil => rfl
  | cons x xs ih =>
    rw [List.filter_cons, List.map_cons, List.sum_cons, ← ih, List.filter_cons, List.filter_nil]
    cases p x
    · exact (Nat.zero_add _).symm
    · exact Nat.add_comm ..

theorem colW_additive (col : Collection) : Additive (colW col) := fun _ tok => length_filter_eq_sum _ tok

theorem wsum_colW (col : Collection) (l : List Cmd) : wsum (colW col) l = (submitted (submitsOf l)).count col := by
  induction l with
  | nil => rfl
  | cons x xs ih =>
    cases x with
    | submit sp tok =>
      show _ = List.count col (tok.map _ ++ submitted (submitsOf xs))
      rw [wsum_cons, ih, List.count_append]
      congr 1
      rw [List.count_eq_length_filter, List.filter_map, List.length_map]
      rfl
    | _ => exact (Nat.zero_add _).trans ih

/-- … and for the multiplicity of every single span-set copy (span set, trace id, parent id) -/
theorem E2E_conservation_collections (p : Program) (col : Collection) :
    let s := (run Sys.init p).1
    (submitted (submitsOf s.g.accepted)).count col = s.flow (colW col)
      + ((submitted (submitsOf s.g.consumed)).count col + (submitted (submitsOf s.g.discarded)).count col
         + (submitted (submitsOf s.g.lostAtExit)).count col) := by
  have := E2E_conservation p (colW col) (colW_additive col)
  have hz : ∀ l : List Nat, submitsOf (l.map Cmd.drop) = [] := fun l => by
    unfold submitsOf; rw [List.filterMap_map]; exact List.filterMap_eq_nil_iff.mpr fun _ _ => rfl
  simp only [wsum_colW, hz] at this
  exact this

/-- an overflow list only ever holds finish / cancel signals -/
theorem E2E_overflow_only_signals (p : Program) (t : Nat) :
    ∀ c ∈ ((run Sys.init p).1.th t).pending, c.isSignal = true :=
  (run_chan p Sys.init ChanInv.init).sig' t

/-- **default configuration**: what has been reported is, up to order, exactly the records of the span
    sets consumed, one copy per token item -/
theorem E2E_default_reports_consumed (p : Program) (hp : Program.isDefault p) :
    let s := (run Sys.init p).1
    (s.g.reported.map Record.core).Perm ((submitted (submitsOf s.g.consumed)).flatMap (collectionCores id)) :=
  (run_dflt p Sys.init hp Dflt.init).rep

/-! ### after a flush nothing is in flight -/

theorem wsum_zero_of_signals (w : Cmd → Nat) (hw : ∀ c, c.isSignal = true → w c = 0) (l : List Cmd)
    (hl : ∀ c ∈ l, c.isSignal = true) : wsum w l = 0 :=
  List.sum_eq_zero_iff_forall_eq_nat.mpr (List.forall_mem_map.mpr fun c hc => hw c (hl c hc))

theorem pendW_zero (w : Cmd → Nat) (hw : ∀ c, c.isSignal = true → w c = 0) (ths : List (Nat × Th))
    (h : ∀ e ∈ ths, ∀ c ∈ e.2.pending, c.isSignal = true) : pendW w ths = 0 :=
  List.sum_eq_zero_iff_forall_eq_nat.mpr (List.forall_mem_map.mpr fun e he => wsum_zero_of_signals w hw _ (h e he))

/-- the entries of the thread table are what `Sys.th` returns for their first occurrence; to
    avoid reasoning about duplicates the invariant is stated on the table itself -/
def TableSig (s : Sys) : Prop := ∀ e ∈ s.threads, ∀ c ∈ e.2.pending, c.isSignal = true

theorem Sys.cycle_rings_empty (s : Sys) : s.cycle.1.cyc = none ∧ ∀ e ∈ s.cycle.1.rxs, e.2.q = [] := by
  obtain ⟨f1, f2, _⟩ := Sys.finishCycleP_fields
    (s.withG { s.g with drainedBy := (drainAllTagged s.rxs).reverse ++ s.g.drainedBy }) (drainAll s.rxs).1 (drainAll s.rxs).2 []
  refine ⟨f1, ?_⟩
  show ∀ e ∈ ((s.withG _).finishCycleP (drainAll s.rxs).1 (drainAll s.rxs).2 []).1.rxs, _
  rw [f2]
  exact fun e he => (mem_drainAll_kept he).2

/-! ### a reporter installed by the first operation: nothing is ever discarded -/

structure HasRep (s : Sys) : Prop where
  has : s.coll.hasReporter = true
  none : s.g.discarded = []

theorem HasRep.finishCycle {s : Sys} (h : HasRep s) (kept : List (Nat × Ring Cmd)) (buf buf2 : List Cmd) :
    HasRep (s.finishCycle kept buf buf2).1 := by
  rw [Sys.finishCycle_on h.has]
  exact ⟨(cycleProcess_hasReporter ..).trans h.has, h.none⟩

theorem HasRep.frame {s s' : Sys} (hc : s'.coll = s.coll) (_ : s'.g.consumed = s.g.consumed) (_ : s'.g.reported = s.g.reported)
    (h4 : s'.g.discarded = s.g.discarded) (h : HasRep s) : HasRep s' :=
  ⟨hc ▸ h.has, h4 ▸ h.none⟩

theorem HasRep.cycStep {s : Sys} (h : HasRep s) : HasRep s.cycStep.1 := collInv_cycStep HasRep.frame HasRep.finishCycle h

theorem exec_hasRep (s : Sys) (t : Nat) (op : Op) (h : HasRep s) : HasRep (exec s t op).1 :=
  exec_collInv HasRep.frame HasRep.finishCycle t op h fun _ _ => ⟨rfl, h.none⟩

theorem run_hasRep (p : Program) (s : Sys) (h : HasRep s) : HasRep (run s p).1 :=
  run_inv p (fun s t op _ => exec_hasRep s t op) s h

theorem run_cons_fst (s : Sys) (t : Nat) (op : Op) (rest : Program) :
    (run s ((t, op) :: rest)).1 = (run (exec s t op).1 rest).1 := rfl

theorem run_snoc (s : Sys) (p : Program) (t : Nat) (op : Op) :
    (run s (p ++ [(t, op)])).1 = (exec (run s p).1 t op).1 := by
  induction p generalizing s with
  | nil => rw [List.nil_append, run_cons_fst]; rfl
  | cons x rest ih =>
    obtain ⟨t', op'⟩ := x
    rw [List.cons_append, run_cons_fst, run_cons_fst]
    exact ih _

/-- with no cycle in progress, every ring empty and nothing carried over, only finish / cancel signals
    are in flight -/
theorem ChanInv.quiescent_flow {s : Sys} (h : ChanInv s) (hc : s.cyc = none) (hr : ∀ e ∈ s.rxs, e.2.q = [])
    (hcar : ∀ c ∈ s.carried, c.isSignal = true)
    (w : Cmd → Nat) (hw : ∀ c, c.isSignal = true → w c = 0) : s.flow w = 0 := by
  unfold Sys.flow
  rw [hc, wsum_zero_of_signals w hw _ hcar, pendW_zero w hw s.threads h.sig,
    wsum_zero_of_signals w hw _ (List.forall_mem_map.mpr fun _ _ => rfl)]
  exact ringsW_zero w s.rxs hr

theorem splitSecond_drops_signals (cb : Bool) (c1 c2 : Coll) (cm : List Nat) (l : List Nat) :
    ∀ c ∈ (splitSecond cb c1 c2 cm (l.map Cmd.drop)).2, c.isSignal = true := by
  rw [splitSecond_eq]
  exact forall_splitSide (fun c hc => by cases c <;> first | exact hc | cases hc) (List.forall_mem_map.mpr fun _ _ => rfl)

/-- processing after an empty second pass carries nothing over but cancel commands it derived itself -/
theorem Sys.finishCycleP_carried (s : Sys) (kept : List (Nat × Ring Cmd)) (buf : List Cmd) :
    ∀ c ∈ (s.finishCycleP kept buf []).1.carried, c.isSignal = true := by
  rw [Sys.finishCycleP_eq]
  cases hr : s.coll.hasReporter with
  | false => rw [Sys.finishCycle_off hr]; exact fun c hc => nomatch hc
  | true =>
    rw [Sys.finishCycle_on hr]
    exact splitSecond_drops_signals _ _ _ _ _

/-- **after `flush()` returns** (with no stepped cycle in progress when it is called), for every weight that
    counts span sets per token item and ignores finish / cancel signals: everything a channel ever accepted
    has been handed to the processing loops (or drained while no reporter was installed) — nothing is in
    flight, nothing was lost -/
theorem E2E_flush_delivers (p : Program) (t : Nat) (hq : (run Sys.init p).1.cyc = none)
    (w : Cmd → Nat) (hadd : Additive w) (hw : ∀ c, c.isSignal = true → w c = 0) :
    let s := (run Sys.init (p ++ [(t, .flush)])).1
    wsum w s.g.accepted = wsum w s.g.consumed + wsum w s.g.discarded := by
  intro s
  have hs : s = ((run Sys.init p).1.cycle).1 := by
    show (run Sys.init (p ++ [(t, .flush)])).1 = _
    rw [run_snoc]
    dsimp only [exec]
    rw [hq]; rfl
  have hchan : ChanInv s := run_chan _ _ ChanInv.init
  have hflow := hchan.quiescent_flow (by rw [hs]; exact (Sys.cycle_rings_empty _).1) (by rw [hs]; exact (Sys.cycle_rings_empty _).2)
    (by rw [hs]; exact Sys.finishCycleP_carried _ _ _) w hw
  have hlost := wsum_zero_of_signals w hw _ hchan.lost
  have hinj : wsum w (s.g.injected.map Cmd.drop) = 0 :=
    wsum_zero_of_signals w hw _ (List.forall_mem_map.mpr fun _ _ => rfl)
  have := hchan.cons w hadd
  rw [hflow, hinj, Ghost.out, hlost, Nat.add_zero, Nat.add_zero, Nat.zero_add] at this
  exact this

/-- after a flush every trace start a channel accepted has been consumed -/
theorem E2E_flush_delivers_starts (p : Program) (t : Nat) (hq : (run Sys.init p).1.cyc = none) (id : Nat) :
    let s := (run Sys.init (p ++ [(t, .flush)])).1
    s.g.accepted.count (.start id) = s.g.consumed.count (.start id) + s.g.discarded.count (.start id) := by
  have := E2E_flush_delivers p t hq (fun x => if x = .start id then 1 else 0) (additive_indicator _ rfl)
    (fun c hc => if_neg fun e => by rw [e] at hc; cases hc)
  simp only [count_eq_wsum] at this
  exact this

/-- after a flush every span-set copy a channel accepted has been consumed: the collections submitted by the
    accepted commands are, up to order, those submitted by the consumed (and discarded) ones -/
theorem E2E_flush_delivers_collections (p : Program) (t : Nat) (hq : (run Sys.init p).1.cyc = none) :
    let s := (run Sys.init (p ++ [(t, .flush)])).1
    (submitted (submitsOf s.g.accepted)).Perm
      (submitted (submitsOf s.g.consumed) ++ submitted (submitsOf s.g.discarded)) := by
  intro s
  rw [List.perm_iff_count]
  intro col
  have := E2E_flush_delivers p t hq (colW col) (colW_additive col)
    (fun c hc => by
      cases c with
      | commit _ => rfl
      | drop _ => rfl
      | _ => cases hc)
  simp only [wsum_colW] at this
  rw [List.count_append]
  exact this

/-- **C01, end to end, default configuration.**  For every program whose first operation installs a reporter
    with the default configuration and which never switches to `cancelable(true)`: when a `flush()` (called
    with no stepped cycle in progress) returns, the records reported so far are — up to order — exactly the
    records of every span set any channel ever accepted, one copy per token item: every accepted span set has
    been delivered **exactly once**; nothing is missing, duplicated or invented.  (A span set is *not*
    accepted only when the thread's ring is full: `Ring.send`, C09.) -/
theorem E2E_default_flush_exactly_once (t0 : Nat) (p : Program) (t : Nat) (hp : Program.isDefault p)
    (hq : (run Sys.init ((t0, .setReporter false) :: p)).1.cyc = none) :
    let s := (run Sys.init ((t0, .setReporter false) :: p ++ [(t, .flush)])).1
    (s.g.reported.map Record.core).Perm ((submitted (submitsOf s.g.accepted)).flatMap (collectionCores id)) := by
  have hp' : Program.isDefault ((t0, .setReporter false) :: p ++ [(t, .flush)]) := by
    intro x hx
    simp only [List.cons_append, List.mem_cons, List.mem_append, List.mem_nil_iff, or_false] at hx
    rcases hx with rfl | hx | rfl
    · intro e; cases e
    · exact hp x hx
    · intro e; cases e
  have hrep := E2E_default_reports_consumed _ hp'
  have hdel := E2E_flush_delivers_collections ((t0, .setReporter false) :: p) t hq
  have hnone : (run Sys.init ((t0, .setReporter false) :: p ++ [(t, .flush)])).1.g.discarded = [] := by
    -- `run` takes its first step by rewriting and not inside a unification
    rw [List.cons_append, run_cons_fst]
    exact (run_hasRep _ _ ⟨rfl, rfl⟩).none
  dsimp only at hrep hdel ⊢
  rw [hnone, show submitted (submitsOf []) = [] from rfl, List.append_nil] at hdel
  exact hrep.trans (hdel.flatMap_right _).symm

/-! ### non-vacuity: a concrete program meets the hypotheses, and something is delivered -/

def demoProgram : Program :=
  [(0, .spawn), (1, .spawn), (0, .root "r" "root" 7 0 true), (0, .child1 "c" "child" "r"), (1, .drop "c"), (0, .drop "r")]

example : Program.isDefault demoProgram := by
  intro x hx
  simp only [demoProgram, List.mem_cons, List.mem_nil_iff, or_false] at hx
  rcases hx with rfl | rfl | rfl | rfl | rfl | rfl <;> (intro e; cases e)

/-- the final states of the demonstration runs, evaluated once -/
theorem demoProgram_final :
    (run Sys.init ((0, .setReporter false) :: demoProgram)).1.cyc = none ∧
    (run Sys.init ((0, .setReporter false) :: demoProgram ++ [(0, .flush)])).1.g.accepted.length = 4 ∧
    (run Sys.init ((0, .setReporter false) :: demoProgram ++ [(0, .flush)])).1.g.reported.length = 2 ∧
    (run Sys.init ((0, .setReporter true) :: demoProgram ++ [(0, .flush)])).1.g.reported.length = 2 ∧
    (run Sys.init ((0, .setReporter true) :: demoProgram ++ [(0, .flush)])).1.coll.cancelable = true := by decide

example : (run Sys.init ((0, .setReporter false) :: demoProgram)).1.cyc = none := demoProgram_final.1
example : (run Sys.init ((0, .setReporter false) :: demoProgram ++ [(0, .flush)])).1.g.accepted.length = 4 := demoProgram_final.2.1
example : (run Sys.init ((0, .setReporter false) :: demoProgram ++ [(0, .flush)])).1.g.reported.length = 2 := demoProgram_final.2.2.1
/-- `E2E_nothing_invented` speaks about non-empty reports in the cancelable configuration too -/
example : (run Sys.init ((0, .setReporter true) :: demoProgram ++ [(0, .flush)])).1.g.reported.length = 2 := demoProgram_final.2.2.2.1
example : (run Sys.init ((0, .setReporter true) :: demoProgram ++ [(0, .flush)])).1.coll.cancelable = true := demoProgram_final.2.2.2.2

end Fastrace
