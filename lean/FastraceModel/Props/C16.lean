import FastraceModel.Model.Disabled
import FastraceModel.Lemmas.NoReporter

/-!
# C16 — disabled tracing is inert and lazy

Enabled build: an operation on a span that is not recording changes nothing that could reach
the reporter (no command is sent: rings, parked lists and collector untouched) and does not
invoke the property closure (`Obs.closure false`).  Disabled build: `execOff` is stateless by
construction; what ties it to the real `--no-default-features` build is the correspondence
run (`fh-off`).
-/
namespace Fastrace

/-- `s'` has exactly the same content on every path to the reporter as `s`: registered rings,
    every thread's parked list, the collector, the collect-id counter -/
def SameWire (s s' : Sys) : Prop :=
  s'.rxs = s.rxs ∧ (∀ t, (s'.th t).pending = (s.th t).pending) ∧ s'.coll = s.coll ∧
  s'.nextCollect = s.nextCollect ∧ s'.cyc = s.cyc

theorem SameWire.refl (s : Sys) : SameWire s s := ⟨rfl, fun _ => rfl, rfl, rfl, rfl⟩

theorem SameWire.trans {a b c : Sys} (h1 : SameWire a b) (h2 : SameWire b c) : SameWire a c :=
  ⟨h2.1.trans h1.1, fun t => (h2.2.1 t).trans (h1.2.1 t), h2.2.2.1.trans h1.2.2.1,
   h2.2.2.2.1.trans h1.2.2.2.1, h2.2.2.2.2.trans h1.2.2.2.2⟩

theorem sameWire_setTh (s : Sys) (t : Nat) (th : Th) (h : th.pending = (s.th t).pending) :
    SameWire s (s.setTh t th) :=
  ⟨rfl, Sys.th_setTh_ind (P := fun t2 th' => th'.pending = (s.th t2).pending) h fun _ => rfl, rfl, rfl, rfl⟩

theorem sameWire_putCtr (s : Sys) (t : Nat) (c : Ctr) : SameWire s (s.putCtr t c) :=
  sameWire_setTh s t { s.th t with suffix := c.suffix } rfl

/-- **lazy + inert**: `with_properties` on a no-op span -/
theorem C16_withProps_noop (s : Sys) (t : Nat) (v : String) (cl : Closure)
    (h : assocGet s.spans v = some none) :
    exec s t (.withProps v cl) = (s, .closure false) := by
  dsimp only [exec]; rw [h]

theorem C16_addProps_noop (s : Sys) (t : Nat) (v : String) (cl : Closure)
    (h : assocGet s.spans v = some none) :
    exec s t (.addProps v cl) = (s, .closure false) := by
  dsimp only [exec]; rw [h]

theorem C16_addEvent_noop (s : Sys) (t : Nat) (v n : String) (p : Option Props)
    (h : assocGet s.spans v = some none) :
    exec s t (.addEvent v n p) = (s, .ok) := by
  dsimp only [exec]; rw [h]

theorem C16_pushChild_noop (s : Sys) (t : Nat) (v x : String) (ls : LocalSpansVal)
    (h : assocGet s.spans v = some none) (hx : assocGet s.lspans x = some ls) :
    exec s t (.pushChild v x) = (s, .ok) := by
  dsimp only [exec]; rw [h, hx]

theorem C16_cancel_noop (s : Sys) (t : Nat) (v : String) (h : assocGet s.spans v = some none) :
    exec s t (.cancel v) = (s, .ok) := by
  dsimp only [exec]; rw [h]

theorem C16_observers_noop (s : Sys) (t : Nat) (v : String) (h : assocGet s.spans v = some none) :
    exec s t (.elapsed v) = (s, .elapsed false) ∧ exec s t (.ctxOf v) = (s, .ctx none) := by
  dsimp only [exec]; rw [h]; exact ⟨rfl, rfl⟩

/-- dropping a no-op span sends nothing -/
theorem C16_drop_noop (s : Sys) (t : Nat) (v : String) (h : assocGet s.spans v = some none) :
    SameWire s (exec s t (.drop v)).1 ∧ (exec s t (.drop v)).2 = .ok := by
  dsimp only [exec]; rw [h]
  exact ⟨SameWire.refl _, rfl⟩

/-- a child of a no-op span is a no-op span; nothing is sent, no id or clock reading drawn -/
theorem C16_child_of_noop (s : Sys) (t : Nat) (v n p : String) (h : assocGet s.spans p = some none) :
    exec s t (.child1 v n p) = ({ s with spans := assocSet s.spans v none }, .ok) := by
  dsimp only [exec]; rw [h]

/-- a root created before a reporter is installed is a no-op span -/
theorem C16_root_before_reporter (s : Sys) (t : Nat) (v n : String) (tr sp : Nat) (b : Bool)
    (h : s.reporterReady = false) :
    exec s t (.root v n tr sp b) = ({ s with spans := assocSet s.spans v none }, .ok) := by
  dsimp only [exec]; unfold Sys.rootOp; rw [h]; rfl

/-- setting a no-op span as local parent opens no scope and sends nothing -/
theorem C16_scope_noop (s : Sys) (t : Nat) (v : String) (h : assocGet s.spans v = some none) :
    SameWire s (exec s t (.scope v)).1 ∧ ((exec s t (.scope v)).1.th t).stack = (s.th t).stack := by
  dsimp only [exec]; rw [h]
  exact ⟨sameWire_setTh _ _ _ rfl, by rw [Sys.th_setTh_same]⟩

/-! ### local operations with no local parent in scope are inert -/

theorem C16_local_inert (s : Sys) (t : Nat) (hs : (s.th t).stack.lines = []) (name : String)
    (cl : Closure) (p : Option Props) :
    exec s t (.lAddProps cl) = (s, .closure false) ∧
    (exec s t .ctxLocal) = (s, .ctx none) ∧
    (exec s t (.childLocal "v" name)) = ({ s with spans := assocSet s.spans "v" none }, .ok) ∧
    ((exec s t (.localEnter name)).1.th t).stack = (s.th t).stack ∧
    ((exec s t (.localEnter name)).1.th t).guards = .localSpan none :: (s.th t).guards ∧
    SameWire s (exec s t (.localEnter name)).1 ∧
    ((exec s t (.lAddEvent name p)).1.th t).stack = (s.th t).stack ∧
    SameWire s (exec s t (.lAddEvent name p)).1 := by
  have hsam : (s.th t).stack.isSampled = false := by unfold Stack.isSampled; rw [hs]
  have hcur : (s.th t).stack.currentToken = none := by unfold Stack.currentToken; rw [hs]
  have hent : (s.th t).stack.enterSpan (s.ctr t) name = none := by unfold Stack.enterSpan; rw [hs]
  have hev : (s.th t).stack.addEvent (s.ctr t) name p = ((s.th t).stack, s.ctr t) := by unfold Stack.addEvent; rw [hs]
  dsimp only [exec]
  rw [hsam, hcur, hent, hev]
  exact ⟨rfl, rfl, rfl, by rw [Sys.th_setTh_same], by rw [Sys.th_setTh_same], sameWire_setTh _ _ _ rfl,
    by rw [Sys.putCtr_th_same, Sys.th_setTh_same], (sameWire_setTh _ _ _ rfl).trans (sameWire_putCtr _ _ _)⟩

/-- answers that show nothing: no closure ran, no context, no records, no `elapsed()` value -/
def Obs.blank : Obs → Bool
  | .closure b | .elapsed b => !b
  | .ctx c => c.isNone
  | .report r => r.isNone
  | .records rs => rs.isEmpty
  | _ => true

/-- the disabled build has no state: the answer depends on the operation only, every context
    is `None`, no closure runs, no record is ever produced -/
theorem C16_disabled (op : Op) :
    (∀ b, execOff op = .closure b → b = false) ∧ (∀ c, execOff op = .ctx c → c = none) ∧
    (∀ r, execOff op = .report r → r = none) ∧ (∀ rs, execOff op = .records rs → rs = []) ∧
    (∀ b, execOff op = .elapsed b → b = false) := by
  have h : (execOff op).blank = true := by unfold execOff; split <;> rfl
  refine ⟨fun b e => ?_, fun c e => ?_, fun r e => ?_, fun rs e => ?_, fun b e => ?_⟩ <;> rw [e] at h
  · cases b with | false => rfl | true => cases h
  · cases c with | none => rfl | some _ => cases h
  · cases r with | none => rfl | some _ => cases h
  · cases rs with | nil => rfl | cons _ _ => cases h
  · cases b with | false => rfl | true => cases h

/-! non-vacuity: a state with a no-op span (root before the reporter is installed) -/
example : assocGet (exec Sys.init 0 (.root "v" "n" 1 0 true)).1.spans "v" = some none := rfl

/-! ### whole programs: nothing records before a reporter is installed -/

/-- **a program that never installs a reporter is inert as a whole**: whatever it does — on any
    number of threads, with scopes, local spans, collectors, adapters, collector cycles, thread
    exit — no operation ever returns a report with records, an extracted context, an `elapsed()`
    value, or runs a property closure passed to a span handle (`with_properties` /
    `add_properties`).  Every span handle is a no-op and no scope carries a token throughout
    (invariant `NoRep`, `Lemmas/NoReporter.lean`).  This includes `enter_with_parents`: over no-op
    parents it yields a no-op span (defect D16, repaired in /repo; the unrepaired code yielded a
    live span with an empty token whose closures ran and whose `elapsed()` was `Some`). -/
theorem C16_no_reporter_program_inert (p : Program)
    (hp : ∀ x ∈ p, ∀ c, x.2 ≠ .setReporter c) :
    ∀ x ∈ p.zip (run Sys.init p).2,
      (∀ rs, x.2 ≠ .report (some rs)) ∧ (∀ c, x.2 ≠ .ctx (some c)) ∧ x.2 ≠ .elapsed true ∧
      ((∃ v cl, x.1.2 = .withProps v cl ∨ x.1.2 = .addProps v cl) → x.2 ≠ .closure true) :=
  fun x hx => run_noRep p Sys.init hp NoRep.init x hx

/-! non-vacuity: a program without a reporter in which a closure is offered to a span handle and to
    a local span under a `LocalCollector`: the first is not run, the second is -/
example : (run Sys.init [(0, .spawn), (0, .root "r" "r" 1 0 true), (0, .withProps "r" ⟨[("k", "v")], 0⟩),
    (0, .collectorStart), (0, .localEnter "l"), (0, .lWithProps ⟨[("k", "v")], 0⟩), (0, .ctxOf "r"), (0, .cycle)]).2.map
      (fun | .closure b => some b | _ => none) = [none, none, some false, none, none, some true, none, none] := rfl

end Fastrace
