import FastraceModel.Lemmas.Cycle
import FastraceModel.Lemmas.Rings

/-!
# C08 — the collector keeps state only for unfinished traces and live threads

Per-trace half, proved for **every** collector state and **every** drained batch (hence for
every history and every placement of cycles): after a cycle the set of retained collect ids
is exactly `(old ∪ started) \ committed \ (dropped, when cancelable)`.  Consequences:
a trace whose commit (or, cancelable, drop) has been consumed is not retained; ids are only
ever introduced by their `start`; the retained set never exceeds the started-and-unterminated
traces.  Per-thread half: a receiver whose producer is gone leaves the registry in the cycle
that finds its ring empty (`drainAll`), so registered receivers ≤ live threads + exited
threads with unread commands.

A `start` processed in a *later* batch than its trace's commit (the two travel through different
threads' queues) would re-create an entry that nothing removes — the theorem below makes that
explicit: the entry exists iff the id is started in a batch that does not also commit it.  The
drain therefore has to hand over the start no later than the commit: that was defect D4, repaired
in /repo by the second drain pass (`C03_second_pass_collects_all`; a commit first seen in the
second pass waits for the next cycle, by which time the start, pushed before it, has been drained).
-/
namespace Fastrace

/-- **retention is exactly started-minus-terminated** -/
theorem C08_retained_ids (conv : Nat → Nat) (c : Coll) (batch : List Cmd) (h : c.hasReporter = true) (x : Nat) :
    x ∈ (cycleProcess conv c batch).1.keys ↔
      (x ∈ c.keys ∨ x ∈ startsOf batch) ∧ (c.cancelable = true → x ∉ dropsOf batch) ∧ x ∉ commitsOf batch :=
  cycleProcess_keys conv c batch h x

/-- a trace whose root's commit is consumed in a cycle is gone after that cycle, even when its
    start is in the same batch -/
theorem C08_commit_releases (conv : Nat → Nat) (c : Coll) (batch : List Cmd) (h : c.hasReporter = true) (id : Nat)
    (hc : id ∈ commitsOf batch) : id ∉ (cycleProcess conv c batch).1.keys := by
  rw [cycleProcess_keys conv c batch h]; exact fun h' => h'.2.2 hc

/-- cancelable: a consumed `cancel()` releases the trace -/
theorem C08_drop_releases (conv : Nat → Nat) (c : Coll) (batch : List Cmd) (h : c.hasReporter = true) (id : Nat)
    (hcan : c.cancelable = true) (hd : id ∈ dropsOf batch) : id ∉ (cycleProcess conv c batch).1.keys := by
  rw [cycleProcess_keys conv c batch h]; exact fun h' => h'.2.1 hcan hd

/-- nothing is retained that was not started: no entry appears out of thin air -/
theorem C08_only_started (conv : Nat → Nat) (c : Coll) (batch : List Cmd) (h : c.hasReporter = true) (x : Nat)
    (hx : x ∈ (cycleProcess conv c batch).1.keys) : x ∈ c.keys ∨ x ∈ startsOf batch :=
  ((cycleProcess_keys conv c batch h x).mp hx).1

/-- over any sequence of batches: an id is retained at the end only if some batch started it
    and no later-or-same batch committed it -/
theorem C08_history (conv : Nat → Nat) (batches : List (List Cmd)) (c : Coll) (h : c.hasReporter = true) (x : Nat)
    (hx : x ∈ (batches.foldl (fun c b => (cycleProcess conv c b).1) c).keys) :
    x ∈ c.keys ∨ ∃ b ∈ batches, x ∈ startsOf b := by
  induction batches generalizing c with
  | nil => exact Or.inl hx
  | cons b bs ih =>
    have hr : (cycleProcess conv c b).1.hasReporter = true := by
      rw [cycleProcess_hasReporter]; exact h
    rcases ih _ hr hx with h1 | ⟨b', hb', hs⟩
    · rcases C08_only_started conv c b h x h1 with h2 | h2
      · exact Or.inl h2
      · exact Or.inr ⟨b, by simp, h2⟩
    · exact Or.inr ⟨b', by simp [hb'], hs⟩

/-- a receiver whose producer is gone is not kept by a drain (its ring is emptied into the
    batch first); a live thread's receiver is kept -/
theorem C08_drain_removes_dead (rxs : List (Nat × Ring Cmd)) :
    ∀ e ∈ (drainAll rxs).1, e.2.producerAlive = true ∧ e.2.q = [] :=
  fun _ he => mem_drainAll_kept he

/-- and the drain loses nothing: the batch is every ring's content, in registry order -/
theorem C08_drain_batch (rxs : List (Nat × Ring Cmd)) : (drainAll rxs).2 = rxs.flatMap (·.2.q) :=
  drainAll_buf rxs

/-! non-vacuity: why the drain must not hand over a commit before its start (D4, repaired) — at the level of batches a start processed after its commit stays -/
example : (cycleProcess id (cycleProcess id ⟨false, true, []⟩ [.commit 0]).1 [.start 0]).1.keys = [0] :=
  rfl

end Fastrace
