import FastraceModel.Lemmas.FrameOps
import FastraceModel.Props.C12
import FastraceModel.Lemmas.ProvOps

/-!
# C11 — extracted span contexts identify the right span
-/
namespace Fastrace

/-- `SpanContext::from_span`: trace id and sampling flag of the **first** parent's trace, the
    span's **own** id; `None` for a no-op span and for a span created from only no-op parents
    (empty token).  State unchanged. -/
theorem C11_from_span (s : Sys) (t : Nat) (v : String) (sp : SpanInner)
    (h : assocGet s.spans v = some (some sp)) :
    exec s t (.ctxOf v) = (s, .ctx (match sp.token with
      | [] => none
      | it :: _ => some ⟨it.traceId, sp.raw.id, it.isSampled⟩)) := by
  dsimp only [exec]; rw [h]; dsimp only; rw [ctxOfToken_issueToken]
  rfl

theorem C11_from_noop (s : Sys) (t : Nat) (v : String) (h : assocGet s.spans v = some none) :
    exec s t (.ctxOf v) = (s, .ctx none) := by
  dsimp only [exec]; rw [h]

/-- `SpanContext::current_local_parent`: with no scope `None`; in a `LocalCollector` scope
    `None`; otherwise the first item of the scope's token with the innermost open local span
    (if any) as span id. No panic for an empty token (D6 fix): `None`. -/
theorem C11_local (s : Sys) (t : Nat) :
    exec s t .ctxLocal = (s, .ctx (match (s.th t).stack.lines with
      | [] => none
      | l :: _ => match l.token with
        | none => none
        | some [] => none
        | some (it :: _) => some ⟨it.traceId, l.queue.nextParent.getD it.parentId, it.isSampled⟩)) := by
  dsimp only [exec]
  rcases (s.th t).stack with ⟨_ | ⟨⟨q, e, _ | _ | ⟨it, tl⟩, sam⟩, ls⟩, _, _⟩ <;> rfl

/-- a root created from a context carries exactly that context in its token … -/
theorem C11_root_token (s : Sys) (t : Nat) (v n : String) (tr sp : Nat) (b : Bool)
    (hr : s.reporterReady = true) (hc : s.cyc = none) :
    ∃ inner, assocGet (exec s t (.root v n tr sp b)).1.spans v = some (some inner) ∧
      inner.token.map (fun it => (it.traceId, it.parentId, it.isSampled)) = [(tr, sp, b)] := by
  obtain ⟨_, _, h⟩ := s.rootOp_get t v n tr sp b hr hc
  exact ⟨_, h, rfl⟩

/-- … and the collector stamps a token item's `(trace, parent)` on the record: the record of
    a thread-safe span under item `(trace, parent)` has that trace id and that parent id.
    Together: a root created from `ctx` is delivered in trace `ctx.trace` under `ctx.span`. -/
theorem C11_record_of_item (conv : Nat → Nat) (raw : RawSpan) (trace parent : Nat) (hk : raw.kind = .span) :
    collectionCores conv ⟨.span raw, trace, parent⟩ =
      [⟨trace, raw.id, parent, conv raw.beginT, conv raw.endT - conv raw.beginT, raw.name⟩] := by
  simp [collectionCores, spanCore, hk]

/-- the same through a traceparent round trip (C12) -/
theorem C11_via_traceparent (c : SpanContext) (h : c.WF) :
    decodeTraceparent (encodeTraceparent c) = some c := C12_decode_encode c h

/-- **a root created from an extracted context continues that span's trace under that span**:
    `Span::root(name, SpanContext::from_span(&p)?)` — directly or after the context travelled as a
    traceparent string (`C11_via_traceparent`) — creates a root whose token names the first
    parent trace of `p`, `p`'s own id as parent, and that trace's sampling decision; by
    `C11_record_of_item` its record is delivered in that trace under `p` -/
theorem C11_rootFrom_token (s : Sys) (t : Nat) (v n p : String) (tp : Bool) (sp : SpanInner) (it : TokenItem) (rest : Token)
    (hp : assocGet s.spans p = some (some sp)) (htok : sp.token = it :: rest)
    (hr : s.reporterReady = true) (hc : s.cyc = none) :
    ∃ inner, assocGet (exec s t (.rootFrom v n p tp)).1.spans v = some (some inner) ∧
      inner.token.map (fun x => (x.traceId, x.parentId, x.isSampled)) = [(it.traceId, sp.raw.id, it.isSampled)] := by
  rw [exec_rootFrom s t v n p tp sp it rest hp htok]
  exact C11_root_token s t v n _ _ _ hr hc

/-- **whole programs**: whatever the program, a context extracted anywhere (from a span handle or
    from the local parent) names a trace that some `root` operation of the program created, with
    that root's sampling decision -/
theorem C11_context_belongs_to_a_root (p : Program) :
    ∀ o ∈ (run Sys.init p).2, ∀ c, o = .ctx (some c) →
      c.traceId ∈ sampledRootTraces p ∨ c.traceId ∈ unsampledRootTraces p := by
  intro o ho c hc
  have h := (run_prov_init p o ho).2 c hc
  cases hs : c.sampled with
  | true => exact .inl (h.1 hs)
  | false => exact .inr (h.2 hs)

end Fastrace
