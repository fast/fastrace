import FastraceModel.Lemmas.FrameBlocks
import FastraceModel.Props.C11

/-!
# C07 — tracing calls never panic, block or deadlock the host

The model's functions are total; what has to be proved is that the places where the **Rust**
code would panic are never reached with the offending values.  Those places are: slice
indexing by a `LocalSpanHandle`, the `debug_assert`s of `span_queue.rs` /
`local_span_stack.rs` / `span.rs` (tests and the harness run debug builds), `token[0]`
(removed by the D6 fix), the `RefCell` borrow of the span stack (user closures now run outside
it, D7 fix), the guard of a scope that could not be registered (D8 fix).

* `C07_local_drop_asserts` / `C07_scope_drop_asserts`: in every well-nested program, when a
  `LocalSpan` / `LocalParentGuard` / `LocalCollector` is dropped, its handle is in range, the
  epochs agree, `next_parent_id` is the span being closed, the scope's token is present —
  i.e. every assertion on that path holds.  (Consequences of the frame theorem C10.)
* `C07_current_local_parent_total`, `C07_scope_at_limit`, `C07_queue_at_limit`,
  `C07_closure_runs_outside_borrow`: the four repaired / limit paths.
* `C07_send_bounded`: `send` / `force_send` perform at most `pending + 1` ring pushes and
  never wait.

Partial (stated, not provable in a functional model): absence of blocking in the allocator /
OS, lock ordering of `parking_lot` (`GLOBAL_COLLECTOR` is only taken by collector cycles and
`set_reporter`; `SPSC_RXS` only by a thread's first command and by the drain — never nested
the other way round; source-level observation).  The implementation side is checked with
`catch_unwind` and a per-call deadline on every generated call sequence, including calls made
from thread-local destructors.
-/
namespace Fastrace

/-- the assertions on `LocalSpan::drop`: epoch equality (`exit_span`), index in range and
    `next_parent_id == Some(span.id)` (`finish_span`) -/
theorem C07_local_drop_asserts (l l1 l2 : SpanLine) (c c1 : Ctr) (n : String) (h : LocalHandle)
    (hs : l.startSpan c n = some (l1, h, c1)) (hp : 1 ≤ c.pref) (hz : l.queue.nextParent ≠ some 0)
    (he : LineExt l1 l2) :
    l2.epoch = h.epoch ∧ ∃ sp : RawSpan, l2.queue.spans[h.index]? = some sp ∧ l2.queue.nextParent = some sp.id := by
  obtain ⟨h1, -, -, -, -, -, sp, h2, h3, -⟩ := SpanLine.started_persists hs he
  exact ⟨h1, sp, h2, h3⟩

/-- the assertions on dropping a scope guard: a current span line exists, its epoch is the
    guard's (`unregister_and_collect`), so the spans are returned, and for a
    `LocalParentGuard` the token is present (`debug_assert!(token.is_some())`) -/
theorem C07_scope_drop_asserts (newl : SpanLine) (lines lines2 : List SpanLine)
    (he : LinesExt (newl :: lines) lines2) :
    ∃ l2 ls2, lines2 = l2 :: ls2 ∧ l2.epoch = newl.epoch ∧ l2.token = newl.token ∧
      (l2.collect newl.epoch).isSome := by
  obtain ⟨l2, ls2, h1, h2, _⟩ := he.cons_left
  exact ⟨l2, ls2, h1, h2.1, h2.2.1, by simp [SpanLine.collect, h2.1]⟩

/-- `current_local_parent()` is total: no index into an empty token (D6) -/
theorem C07_current_local_parent_total (s : Sys) (t : Nat) :
    ∃ c, exec s t .ctxLocal = (s, .ctx c) := by
  rw [C11_local]; exact ⟨_, rfl⟩

/-- at the scope limit `set_local_parent` yields a no-op guard whose drop does nothing (D8) -/
theorem C07_scope_at_limit (s : Sys) (t : Nat) (v : String) (sp : SpanInner)
    (hv : assocGet s.spans v = some (some sp)) (hfull : (s.th t).stack.lines.length ≥ (s.th t).stack.cap) :
    (exec s t (.scope v)).1.th t = { s.th t with guards := .scope none :: (s.th t).guards } ∧
    ((exec (exec s t (.scope v)).1 t .close).1.th t) = s.th t := by
  have h1 := (exec_scope_th s t v _ hv).trans (Th.setLocalParent_full _ _ hfull)
  refine ⟨h1, ?_⟩
  rw [close_eq _ t (.scope none) (s.th t).guards (by rw [h1]), h1]
  exact Sys.th_setTh_same ..

/-- at the per-scope span limit a local span is a no-op: nothing recorded, no id drawn -/
theorem C07_queue_at_limit (q : SpanQueue) (c : Ctr) (n : String) (p : Option Props) (kvs : Props)
    (hfull : q.spans.length ≥ q.cap) :
    q.startSpan c n = none ∧ q.addEvent c n p = (q, c) ∧ q.addProps c kvs = (q, c) := by
  simp [SpanQueue.startSpan, SpanQueue.addEvent, SpanQueue.addProps, hfull]

/-- the user closure of `LocalSpan::with_properties` runs on the *unborrowed* state, before the
    properties are stored (D7): the operation is literally "run the closure, then store" -/
theorem C07_closure_runs_outside_borrow (s : Sys) (t : Nat) (cl : Closure) (h : LocalHandle) (gs : List Guard)
    (hg : (s.th t).guards = .localSpan (some h) :: gs) :
    exec s t (.lWithProps cl) =
      (let s1 := s.runClosure t cl
       s1.setTh t { s1.th t with stack := (s1.th t).stack.withProps h cl.kvs }, .closure true) := by
  dsimp only [exec]; rw [hg]

/-- `send` / `force_send` are bounded: the replay loop pushes each parked value at most once
    (it is structural on the parked list) and the result is returned without waiting -/
theorem C07_send_bounded {α : Type} (r : Ring α) (pending : List α) :
    (r.replay pending).2.length ≤ pending.length ∧
    (r.replay pending).1.q.length ≤ r.q.length + pending.length := by
  induction pending generalizing r with
  | nil => exact ⟨Nat.le_refl _, Nat.le_refl _⟩
  | cons x xs ih =>
    rw [Ring.replay]
    cases hp : r.push x with
    | none => exact ⟨Nat.le_refl _, Nat.le_add_right ..⟩
    | some r' =>
      obtain ⟨h1, h2⟩ := ih r'
      rw [Ring.push_seq hp, List.length_append, List.length_singleton, Nat.add_assoc, Nat.add_comm 1] at h2
      exact ⟨Nat.le_succ_of_le h1, h2⟩

end Fastrace
