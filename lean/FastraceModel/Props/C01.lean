import FastraceModel.Lemmas.Sound

/-!
# C01 — every finished span of a sampled trace is delivered exactly once (default config)

Collector level, for **every** reachable collector state and **every** drained batch — so for
every placement of cycles and every order in which the threads' queues were drained:

`C01_cycle_reports_everything_once`: in the default configuration the report of a cycle is a
permutation of *exactly* the span sets submitted in the drained batch, one copy per token item
(= per sampled parent), whether or not their trace is still active (late spans take the
stale path, with the same result) and whether or not the trace's commit is in the batch.
Nothing drained is held back to a later cycle (`Flushed` is an invariant), nothing is
reported twice, nothing is invented.

Together with the channel theorems (C09: every accepted command is drained exactly once, in
per-thread order; a receiver is only removed when its ring is empty and its producer gone —
D1 fix) this is "exactly once, in the cycle that drains it, at the latest when a `flush()`
called afterwards returns" (`flush()` is one complete cycle: the arm of `exec` it shares with
`.cycle`; over whole programs `E2E_default_flush_exactly_once`, `Props/E2E.lean`).

Partial: the wall-clock clause ("within about one report interval") is outside the model; the
background thread is `loop { cycle; sleep }`, and one cycle suffices by the theorem.
-/
namespace Fastrace

/-- no span set is held back between cycles -/
def Flushed (c : Coll) : Prop := ∀ e ∈ c.active, e.2.collections = []

/-- **exactly once, in the cycle that drains it** -/
theorem C01_cycle_reports_everything_once (conv : Nat → Nat) (c : Coll) (batch : List Cmd)
    (hr : c.hasReporter = true) (hc : c.cancelable = false) (hf : Flushed c) (hn : KeysNodup c) :
    ∃ recs, (cycleProcess conv c batch).2 = some recs ∧
      (recs.map Record.core).Perm ((submitted (submitsOf batch)).flatMap (collectionCores conv)) ∧
      Flushed (cycleProcess conv c batch).1 ∧ KeysNodup (cycleProcess conv c batch).1 := by
  -- `Flushed` is `ColsIn` of the empty predicate, which the start loop preserves
  have h0 : allCols (phaseStarts c batch).active = [] :=
    List.eq_nil_iff_forall_not_mem.mpr (phaseStarts_colsIn (P := fun _ => False) c batch
      fun col h => absurd (List.flatMap_eq_nil_iff.mpr hf ▸ h : col ∈ []) List.not_mem_nil)
  obtain ⟨recs, e, p, f, n⟩ := default_cycle_report conv c batch hr hc hn
  rw [h0] at p
  exact ⟨recs, e, p, List.flatMap_eq_nil_iff.mp f, n⟩

/-- the invariants hold initially, so they hold in every reachable collector state -/
theorem C01_invariants_initially (cancelable : Bool) :
    Flushed ⟨cancelable, true, []⟩ ∧ KeysNodup ⟨cancelable, true, []⟩ := by
  constructor
  · intro e he; simp at he
  · simp [KeysNodup, Coll.keys]

/-- `submitted` really is "one copy per token item of every submit command" -/
theorem C01_submitted_count (subs : List (SpanSet × Token)) :
    (submitted subs).length = (subs.map (·.2.length)).sum := by
  rw [submitted, List.length_flatMap]
  exact congrArg List.sum (List.map_congr_left fun _ _ => List.length_map _)

end Fastrace
