import FastraceModel.Model.Macro

/-!
# C15 — `#[trace]` changes nothing but adds exactly one span per call

What Lean carries (decision logic, all argument combinations and all strings):

* `C15_rejections`: the attribute is rejected exactly for: empty `name`; `name` with
  `short_name`; `properties` with `enter_on_poll`; `enter_on_poll` on a non-async function —
  and accepted otherwise (duplicate arguments / keys are syntax-level rejections of the
  parser, covered by the repository's trybuild test);
* `C15_name`: the span name is the configured name, else the bare identifier with
  `short_name`, else `func_path!()`;
* `C15_wrapper`: sync → a `LocalSpan` guard around the unchanged block; async → `in_span` on a
  `Span::enter_with_local_parent`, or `enter_on_poll` (no properties), `.await`ed for an
  `async fn` and not for an async-trait wrapper;
* `C15_unescape_*`: a value without placeholders is emitted as a literal with `{{`→`{` and
  `}}`→`}`; a value with a `{` or `}` left after deleting the escapes goes to `format!`
  unchanged; escape-free strings are emitted unchanged;
* what each wrapper does at run time is C10 (sync guard = `Blk.localSpan`: context restored,
  one local span) and C13 (`in_span`, `enter_on_poll`).

What Lean cannot carry — that the real expansion *is* the modelled wrapper around the
**unchanged** body for all Rust functions, and that rustc's evaluation of it preserves results,
side effects, panics and `?` — is checked, not proved: annotated/plain twins over the
signature shapes and bodies listed in the evidence file are compiled with the real macro and
compared on return values, side-effect logs, unwind payloads and recorded spans (name,
properties incl. evaluated format strings, parent, count; nothing without a local parent).
-/
namespace Fastrace.Macro

/-! `gen_name`, `gen_properties` and `gen_block`, each read once: when it rejects, and what it
returns when it does not -/

theorem genName_error_iff (fn : String) (a : Args) :
    (∃ e, genName fn a = .error e) ↔ a.name = some "" ∨ (a.name.isSome ∧ a.shortName = true) := by
  unfold genName
  cases hn : a.name with
  | none => cases a.shortName <;> simp
  | some n =>
    by_cases h : n = ""
    · simp [h]
    · cases a.shortName <;> simp [h]

theorem genName_ok {fn : String} {a : Args} {nm : NameExpr} (h : genName fn a = .ok nm) :
    nm = (match a.name with
      | some n => .literal n
      | none => if a.shortName then .ident fn else .funcPath) := by
  unfold genName at h
  cases hn : a.name <;> rw [hn] at h <;> dsimp only at h ⊢
  · split at h <;> cases h <;> simp [*]
  · split at h
    · cases h
    · split at h <;> cases h; rfl

theorem genProperties_error_iff (a : Args) :
    (∃ e, genProperties a = .error e) ↔ a.properties ≠ [] ∧ a.enterOnPoll = true := by
  unfold genProperties
  cases a.properties with
  | nil => simp
  | cons p ps => cases a.enterOnPoll <;> simp

theorem genBlock_error_iff (fn : String) (ac ak : Bool) (a : Args) :
    (∃ e, genBlock fn ac ak a = .error e) ↔
      (∃ e, genName fn a = .error e) ∨ (∃ e, genProperties a = .error e) ∨
        (ac = false ∧ a.enterOnPoll = true) := by
  unfold genBlock
  cases genName fn a with
  | error e => simp
  | ok nm =>
    cases genProperties a with
    | error e => simp
    | ok ps => cases ac <;> cases a.enterOnPoll <;> simp

theorem genBlock_ok {fn : String} {ac ak : Bool} {a : Args} {x : Expansion} (h : genBlock fn ac ak a = .ok x) :
    genName fn a = .ok x.name ∧
    (∃ ps, genProperties a = .ok ps ∧ x.props = if x.wrapper = .asyncEnterOnPoll then [] else ps) ∧
    x.wrapper = (if ac then (if a.enterOnPoll then .asyncEnterOnPoll else .asyncInSpan) else .syncGuard) ∧
    x.awaited = (ac && ak) := by
  unfold genBlock at h
  cases hn : genName fn a with
  | error e => rw [hn] at h; cases h
  | ok nm =>
    cases hp : genProperties a with
    | error e => rw [hn, hp] at h; cases h
    | ok ps =>
      rw [hn, hp] at h
      cases ac <;> cases he : a.enterOnPoll <;> rw [he] at h <;> cases h <;> exact ⟨rfl, ⟨ps, rfl, rfl⟩, rfl, rfl⟩

theorem expand_eq (fn : String) (isAsync tr : Bool) (a : Args) :
    expand fn isAsync tr a = genBlock fn (tr || isAsync) (!tr && isAsync) a := by
  cases tr <;> rfl

/-- **the rejection table** -/
theorem C15_rejections (fn : String) (isAsync : Bool) (a : Args) :
    (∃ e, expand fn isAsync false a = .error e) ↔
      (a.name = some "" ∨ (a.name.isSome ∧ a.shortName = true) ∨
       (a.properties ≠ [] ∧ a.enterOnPoll = true) ∨ (isAsync = false ∧ a.enterOnPoll = true)) := by
  rw [expand_eq, genBlock_error_iff, genName_error_iff, genProperties_error_iff, or_assoc]
  rfl

/-- **the span name** of an accepted attribute -/
theorem C15_name (fn : String) (isAsync tr : Bool) (a : Args) (x : Expansion) (h : expand fn isAsync tr a = .ok x) :
    x.name = (match a.name with
      | some n => .literal n
      | none => if a.shortName then .ident fn else .funcPath) :=
  genName_ok (genBlock_ok (expand_eq .. ▸ h)).1

/-- **which wrapper**: sync functions get a local-span guard; async ones `in_span`, or
    `enter_on_poll` without properties; an `async fn` is awaited, an async-trait wrapper is not -/
theorem C15_wrapper (fn : String) (isAsync tr : Bool) (a : Args) (x : Expansion) (h : expand fn isAsync tr a = .ok x) :
    x.wrapper = (if tr ∨ isAsync then (if a.enterOnPoll then .asyncEnterOnPoll else .asyncInSpan) else .syncGuard) ∧
    x.awaited = (!tr && isAsync) ∧ (x.wrapper = .asyncEnterOnPoll → x.props = []) := by
  obtain ⟨-, ⟨ps, -, hps⟩, hw, haw⟩ := genBlock_ok (expand_eq .. ▸ h)
  cases tr <;> cases isAsync <;> exact ⟨hw, haw, fun hx => hps.trans (if_pos hx)⟩

theorem replace2_no_match (p1 p2 : Char) (to s : List Char) (h : ∀ c ∈ s, c ≠ p1) : replace2 p1 p2 to s = s := by
  induction s with
  | nil => rfl
  | cons a rest ih =>
    cases rest with
    | nil => rfl
    | cons b rest' =>
      have ha : a ≠ p1 := h a (by simp)
      simp only [replace2, ha, false_and, if_false]
      rw [ih (fun c hc => h c (by simp [hc]))]

/-- a string without braces is emitted unchanged, as a literal -/
theorem C15_unescape_plain (s : List Char) (h : ∀ c ∈ s, c ≠ '{' ∧ c ≠ '}') : unescape s = (s, false) := by
  have hl := fun to => replace2_no_match '{' '{' to s fun c hc => (h c hc).1
  have hr := fun to => replace2_no_match '}' '}' to s fun c hc => (h c hc).2
  have hany : (s.any fun c => decide (c = '{' ∨ c = '}')) = false := by
    simp only [List.any_eq_false, decide_eq_true_eq, not_or]
    exact h
  simp only [unescape, hl, hr, hany]
  rfl

/-- a value that needs `format!` is passed through untouched -/
theorem C15_unescape_format_unchanged (s : List Char) (h : (unescape s).2 = true) : (unescape s).1 = s := by
  unfold unescape at h ⊢
  by_cases hc : ((replace2 '}' '}' [] (replace2 '{' '{' [] s)).any fun c => decide (c = '{' ∨ c = '}')) = true
  · simp only [hc, if_true]
  · simp only [hc] at h
    simp at h

/-- concrete evaluations of the literal path (compared with the real macro on every run) -/
theorem C15_unescape_examples :
    unescape "{{braces}}".toList = ("{braces}".toList, false) ∧
    unescape "}}{{ a {{}} b".toList = ("}{ a {} b".toList, false) ∧
    (unescape "a={a}".toList).2 = true ∧ (unescape "{a:?} and {{x}}".toList).2 = true ∧
    unescape "{{{{".toList = ("{{".toList, false) := by
  -- the literals spelt out as characters first: decoding their UTF-8 is what `decide` is slow at
  dsimp only [String.reduceToList]; decide

/-! non-vacuity: an accepted and a rejected attribute -/
example : expand "f" true false ⟨none, true, true, []⟩ = .ok ⟨.asyncEnterOnPoll, .ident "f", [], true⟩ := by
  simp [expand, genBlock, genName, genProperties]
example : expand "f" false false ⟨some "n", false, true, []⟩ = .error .enterOnPollOnSync := by
  simp [expand, genBlock, genName, genProperties]

end Fastrace.Macro
