import FastraceModel.Props.C13

/-!
# C14 — Stream and Sink adapters scope spans the same way

The Stream/Sink adapter of `fastrace-futures` is the same `InSpan { inner, span: Option<Span> }`
with more methods; in the model all of them go through `Sys.adPoll` / `Sys.adEnd`, which are
kind-agnostic except for *which result finishes the span*.  So the theorems of C13
(`C13_local_parent_during_poll`, `C13_context_restored`, `C13_finish_once`,
`C13_guard_before_span`, `C13_drop_finishes_if_held`) apply verbatim to `poll_next`,
`poll_ready`, `start_send`, `poll_flush` and `poll_close`; what is specific is the table below.
-/
namespace Fastrace

/-- a stream's span finishes exactly when `poll_next` yields `None` -/
theorem C14_stream_finishes_iff (call result : String) :
    adFinishes .stream call result = (call == "poll_next" && result == "none") := rfl

/-- a sink's span finishes exactly when `poll_close` is `Ready` (`Ok` or `Err`), never on
    `poll_ready` / `start_send` / `poll_flush` -/
theorem C14_sink_finishes_iff (call result : String) :
    adFinishes .sink call result = (call == "poll_close" && result != "pending") := rfl

theorem C14_sink_other_calls_never_finish (result : String) :
    adFinishes .sink "poll_ready" result = false ∧ adFinishes .sink "start_send" result = false ∧
    adFinishes .sink "poll_flush" result = false := by
  simp [adFinishes]

theorem C14_stream_items_never_finish : adFinishes .stream "poll_next" "item" = false ∧
    adFinishes .stream "poll_next" "pending" = false := by
  simp [adFinishes]

/-- the span is the local parent during **every** stream / sink call -/
theorem C14_local_parent_during_call (s : Sys) (t : Nat) (a call : String) (ad : Adapter) (sp : SpanInner)
    (ha : assocGet s.adapters a = some ad) (hk : ad.kind = .stream ∨ ad.kind = .sink) (hs : ad.span = some (some sp))
    (hroom : (s.th t).stack.lines.length < (s.th t).stack.cap) :
    ((s.adPoll t a call).1.th t).stack.currentToken = some (issueToken sp) :=
  C13_local_parent_during_poll s t a call ad sp ha (by rcases hk with h | h <;> rw [h] <;> exact AdKind.noConfusion) hs hroom

/-- and the previous local context is restored after it -/
theorem C14_context_restored (t : Nat) (a call result : String) (body : List Blk) (s : Sys)
    (hok : Blk.okList t body = true)
    (hobs : (runO s ((Blk.adCall a call result body).flat t)).all Obs.isOk = true) (hg : Good (s.th t)) :
    ((runS s ((Blk.adCall a call result body).flat t)).th t).stack.frame = (s.th t).stack.frame :=
  (C13_context_restored t a call result body s hok hobs hg).1

end Fastrace
