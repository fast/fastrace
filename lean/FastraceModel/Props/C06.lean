import FastraceModel.Lemmas.Collector

/-!
# C06 — properties and events are delivered on the span they were attached to

The collector parks every attachment (an `Event` / `Properties` pseudo-span) under the id of
its target and mounts parked items when a record with that id is post-processed.  Proved
here, for every record list, every parked map and every string content:

* parking keeps arrival order per target and does not disturb other targets
  (`C06_park_order`);
* mounting gives **each record exactly the items parked under its own id**, in arrival
  order, appended after the properties/events it already has, and removes them from the map,
  so they cannot be mounted a second time; items for ids not in this call stay parked,
  untouched (`C06_mount_exact`) — under the hypothesis that the records of one
  post-processing call have pairwise distinct ids (`DistinctIds`);
* keys, values and names are never inspected or changed (the functions are parametric in the
  strings: they only move them).

`DistinctIds` is exactly what open finding D10 violates (one span set delivered twice into
one trace: all items go to the first copy — `C06_D10_witness`).
-/
namespace Fastrace

/-- **parking**: per target, arrival order is kept; other targets are not disturbed -/
theorem C06_park_order (d : Danglings) (k : Nat) (item : Dangling) :
    (d.push k item).at k = d.at k ++ [item] ∧ ∀ k2, k2 ≠ k → (d.push k item).at k2 = d.at k2 :=
  ⟨by rw [Danglings.at_push, if_pos rfl], fun k2 h => by rw [Danglings.at_push, if_neg h.symm]⟩

/-- the records of one post-processing call have pairwise distinct span ids -/
def DistinctIds (rs : List Record) : Prop := (rs.map (·.spanId)).Nodup

/-- **mounting is exact**: each record gets precisely the items parked under its id, in
    order; what is parked under other ids is left exactly as it was -/
theorem C06_mount_exact (rs : List Record) (d : Danglings) (h : DistinctIds rs) :
    (mountDanglings rs d).1 = rs.map (fun r => (d.at r.spanId).foldl applyDangling r) ∧
    (∀ k, k ∉ rs.map (·.spanId) → (mountDanglings rs d).2.at k = d.at k) ∧
    (∀ k, k ∈ rs.map (·.spanId) → (mountDanglings rs d).2.at k = []) := by
  induction rs generalizing d with
  | nil => exact ⟨rfl, fun _ _ => rfl, fun _ hk => absurd hk List.not_mem_nil⟩
  | cons r rs ih =>
    obtain ⟨hnot, hnd⟩ := List.nodup_cons.mp h
    obtain ⟨ih1, ih2, ih3⟩ := ih (d.remove r.spanId) hnd
    rw [mountDanglings_cons]
    refine ⟨?_, ?_, ?_⟩
    · refine congrArg _ (ih1.trans (List.map_congr_left fun r' hr' => ?_))
      rw [Danglings.at_remove, if_neg fun e => hnot (List.mem_map.mpr ⟨r', hr', e⟩)]
    · intro k hk
      rw [ih2 k fun m => hk (List.mem_cons_of_mem _ m), Danglings.at_remove,
        if_neg fun e => hk (List.mem_cons.mpr (Or.inl e))]
    · intro k hk
      rcases List.mem_cons.mp hk with rfl | hk
      · rw [ih2 _ hnot, Danglings.at_remove, if_pos rfl]
      · exact ih3 k hk

/-- what mounting a list of parked items does to a record: properties are appended in order,
    events are appended in order, nothing else changes -/
def propsOf : List Dangling → Props
  | [] => []
  | .props p :: rest => p ++ propsOf rest
  | .event _ :: rest => propsOf rest
def eventsOf : List Dangling → List EventRecord
  | [] => []
  | .event e :: rest => e :: eventsOf rest
  | .props _ :: rest => eventsOf rest

theorem C06_apply_items (items : List Dangling) (r : Record) :
    (items.foldl applyDangling r).props = r.props ++ propsOf items ∧
    (items.foldl applyDangling r).events = r.events ++ eventsOf items ∧
    (items.foldl applyDangling r).core = r.core := by
  induction items generalizing r with
  | nil => exact ⟨(List.append_nil _).symm, (List.append_nil _).symm, rfl⟩
  | cons it rest ih =>
    obtain ⟨h1, h2, h3⟩ := ih (applyDangling r it)
    rw [List.foldl_cons, h1, h2, h3]
    cases it with
    | event e => exact ⟨rfl, List.append_assoc .., rfl⟩
    | props p => exact ⟨List.append_assoc .., rfl, rfl⟩

/-- D20, the open finding (release-build face): `LocalSpan::with_properties` looks at the current span line only.  When a
    newer scope has been opened since the local span was entered, the current line's epoch is not the handle's and the
    properties are dropped — whatever the line the span lives on.  (With debug assertions the call panics instead; the
    unit test `unmatched_span_line_add_properties` of the baseline suite pins that, so the code stays as it is.) -/
theorem C06_D20_dropped_under_newer_scope (st : Stack) (newer : SpanLine) (below : List SpanLine) (h : LocalHandle) (kvs : Props)
    (hl : st.lines = newer :: below) (hne : newer.epoch ≠ h.epoch) :
    (st.withProps h kvs).lines = st.lines := by
  unfold Stack.withProps
  rw [hl]
  have : newer.withProps h kvs = newer := by
    simp [SpanLine.withProps, hne]
  simp [this]

/-- D10, the open finding: two copies of one span in one call — the first takes everything -/
theorem C06_D10_witness :
    let r : Record := ⟨1, 7, 0, 0, 0, "s", [], []⟩
    (mountDanglings [r, r] [(7, [.props [("k", "v")], .props [("k", "v")]])]).1.map (·.props)
      = [[("k", "v"), ("k", "v")], []] :=
  rfl

/-! non-vacuity of `DistinctIds` -/
example : DistinctIds [⟨1, 7, 0, 0, 0, "a", [], []⟩, ⟨1, 8, 7, 0, 0, "b", [], []⟩] := by
  simp [DistinctIds]

end Fastrace
