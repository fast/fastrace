import FastraceModel.Lemmas.JaegerDec
import FastraceModel.Lemmas.DatadogDec

/-!
# C19 — bundled reporters transmit records faithfully

What is proved here (for every record, all 2^128 / 2^64 id values, all strings):
* OpenTelemetry: `convert` is invertible on well-formed records (`C19_otel_faithful`) —
  ids, name, start time, duration, attributes, events (with their timestamps) are all
  recoverable from the exported `SpanData`.
* Jaeger: the i64 fields are bit-pattern preserving and the 128-bit trace id is recoverable
  from its two halves (`C19_jaeger_ids_lossless`); varint and zigzag, the two primitives every
  number on the Thrift wire goes through, round-trip (`C19_varint_roundtrip`,
  `C19_zigzag_roundtrip`).
* one datagram/body = exactly the records handed over, once each and in order: the whole
  message decodes back to the views of the batch (`C19_jaeger_roundtrip`,
  `C19_datadog_roundtrip`; the decoders are in `Lemmas/JaegerDec.lean`, `Lemmas/DatadogDec.lean`),
  so the model's bytes are well-formed Thrift compact / msgpack.
The byte-level well-formedness of the real reporters' whole messages (Thrift struct/list framing,
msgpack maps) is validated on every run by independent decoders applied to the real bytes and by
byte equality with the model's encoders; see the evidence file.
-/
namespace Fastrace

/-- `begin + duration` fits `u64`: true of every record a collector cycle produces; the
    OpenTelemetry reporter's `u64` addition is only modelled under it (D11). -/
def Record.TimeWF (r : Record) : Prop := r.beginNs + r.durationNs < 2 ^ 64

namespace Otel

/-- reading a `SpanData` back into a record -/
def back (d : SpanData) : Record :=
  let ns (t : Time) := t.secs * 1000000000 + t.nanos
  { traceId := ofBe d.traceId, spanId := ofBe d.spanId, parentId := ofBe d.parentId,
    beginNs := ns d.start, durationNs := ns d.finish - ns d.start, name := d.name, props := d.attrs,
    events := d.events.map fun e => ⟨e.name, ns e.time, e.attrs⟩ }

theorem ns_timeOfNanos (n : Nat) :
    (timeOfNanos n).secs * 1000000000 + (timeOfNanos n).nanos = n :=
  Nat.div_add_mod' n 1000000000

/-- **OpenTelemetry is lossless**: every field of every well-formed record survives. -/
theorem C19_otel_faithful (r : Record) (h : r.WF) : back (convert r) = r := by
  obtain ⟨t, s, p, b, d, n, pr, ev⟩ := r
  obtain ⟨ht, hs, hp, -⟩ := h
  -- `ofBe_be` leaves `t % 256 ^ 16`, which `simp` matches with the `t % 2 ^ 128` of `ht`: the same number
  simp only [back, convert, ofBe_be, ns_timeOfNanos, List.map_map, Function.comp_def, List.map_id',
    Nat.add_sub_cancel_left, Nat.mod_eq_of_lt ht, Nat.mod_eq_of_lt hs, Nat.mod_eq_of_lt hp]

/-- exported ids have the protocol's fixed widths, all bytes are bytes -/
theorem C19_otel_id_shape (r : Record) :
    (convert r).traceId.length = 16 ∧ (convert r).spanId.length = 8 ∧
    (convert r).parentId.length = 8 ∧ ∀ x ∈ (convert r).traceId, x < 256 := by
  refine ⟨by simp [convert], by simp [convert], by simp [convert], ?_⟩
  exact be_bytes 16 r.traceId

end Otel

namespace Jaeger
open Thrift

/-- **ids are not damaged by the i64 representation**: low/high halves recombine to the
    128-bit trace id; span and parent ids are carried as their own bit patterns. -/
theorem C19_jaeger_ids_lossless (t : Nat) (h : t < 2 ^ 128) :
    (t / 2 ^ 64 % 2 ^ 64) * 2 ^ 64 + t % 2 ^ 64 = t := by
  rw [Nat.mod_eq_of_lt (Nat.div_lt_of_lt_mul (Nat.lt_of_lt_of_eq h (Nat.pow_add 2 64 64))), Nat.div_add_mod']

theorem C19_varint_roundtrip (n : Nat) (rest : List Nat) :
    decVarint (varint n ++ rest) = some (n, rest) ∧ ∀ b ∈ varint n, b < 256 :=
  ⟨decVarint_varint n rest, varint_bytes n⟩

theorem C19_zigzag_roundtrip (u : Nat) (h : u < 2 ^ 64) : unzigzag64 (zigzag64 u) = u :=
  unzigzag64_zigzag64 u h

/-- **the Jaeger datagram round-trips** (whole message: header, method name, Batch, Process,
    every span struct with its tags and logs): decoding what the reporter serialises for a
    batch gives the service name and, for every record **exactly once and in order**, its view
    — ids as bit patterns, name, µs times, every property as a string tag in order, every
    event as a log with its name and properties.  The bytes are therefore a well-formed Thrift
    compact `emitBatch` message (the decoder accepts them and consumes them entirely). -/
theorem C19_jaeger_roundtrip (svc : String) (rs : List Record) (h : ∀ r ∈ rs, r.WF) :
    decodeBatch (encodeBatch svc rs) = some (strBytes svc, rs.map jaegerView) := by
  let body : TFields :=
    .cons 1 (.struct (.cons 1 (processStruct svc) (.cons 2 (.list (.ofList (rs.map spanStruct))) .nil))) .nil
  have hwf : body.WF := by
    simp only [body, TFields.WF, TData.WF, processStruct, Nat.reduceLT, Nat.reducePow, true_and, and_true]
    exact spans_wf rs h
  have hname := decData_encData (.binary (strBytes "emitBatch")) 1 (encFields 0 body) trivial (Nat.le_refl 1)
  have hbody := decFields_encFields body (3 * (encFields 0 body).length + 3) 0 [] hwf
    (Nat.le_trans (Nat.le_add_right _ 2) (Nat.le_trans (size_le_fields body 0) (Nat.le_add_right _ 3)))
  simp only [compactKind, encData, List.append_assoc, body] at hname
  simp only [List.append_nil, body] at hbody
  simp only [encodeBatch, encMessageOneway, List.cons_append, List.nil_append, List.append_assoc,
    decodeBatch, decVarint_varint, hname, ne_eq, not_true_eq_false, if_false, hbody]
  simp only [processStruct, viewSpans_ofList, Option.map_some]

/-- the view loses no id information: the record's trace, span and parent ids are recoverable -/
theorem C19_jaeger_view_ids (r : Record) (h : r.WF) :
    (jaegerView r).traceHigh * 2 ^ 64 + (jaegerView r).traceLow = r.traceId ∧
    (jaegerView r).spanId = r.spanId ∧ (jaegerView r).parentId = r.parentId := by
  refine ⟨?_, rfl, rfl⟩
  exact C19_jaeger_ids_lossless r.traceId h.1

/-- the generic compact-protocol round trip behind it -/
theorem C19_thrift_roundtrip (d : TData) (fuel : Nat) (rest : List Nat) (hw : d.WF) (hf : d.size ≤ fuel) :
    decData fuel (compactKind d) (encData d ++ rest) = some (d, rest) :=
  decData_encData d fuel rest hw hf

/-- µs conversion loses strictly less than one microsecond -/
theorem C19_jaeger_time_loss (ns : Nat) : ns / 1000 * 1000 ≤ ns ∧ ns < ns / 1000 * 1000 + 1000 :=
  ⟨Nat.div_mul_le_self ns 1000, Nat.lt_div_mul_add (by decide)⟩

end Jaeger

namespace Datadog

/-- **the Datadog request body round-trips** (whole body: the one-element trace array, the
    array of span maps, every field of every map): decoding what `serialize` produces gives,
    for every record exactly once and in order, its Datadog view — name, service, type,
    resource, start and duration as i64 bit patterns, the low 64 bits of the trace id, span and
    parent id, and `meta` = one entry per property key (absent when there are no properties).
    Events are not part of the format. -/
theorem C19_datadog_roundtrip (c : Cfg) (rs : List Record) (h : ∀ r ∈ rs, RecOk c r) (hn : rs.length < 2 ^ 32) :
    decodeBody (encodeBody c rs) = some (rs.map (ddView c)) := by
  have := decSpans_enc c rs h []
  rw [List.append_nil] at this
  simp only [decodeBody, encodeBody, List.cons_append, List.nil_append, decLen_arr hn _, this]

/-- the msgpack primitives behind it (smallest-form integers incl. negative i64, strings,
    map / array headers) -/
theorem C19_msgpack_primitives (u : Nat) (s rest : List Nat) (hu : u < 2 ^ 64) (hs : s.length < 2 ^ 32) :
    decSint (mpSint u ++ rest) = some (u, rest) ∧ decUint (mpUint u ++ rest) = some (u, rest) ∧
    decStr (mpStr s ++ rest) = some (s, rest) :=
  ⟨decSint_mpSint hu rest, decUint_mpUint hu rest, decStr_mpStr hs rest⟩

/-- `meta` keeps one entry per key -/
theorem C19_meta_keys_subset (p : Props) : ∀ kv ∈ metaOf p, ∃ v, (kv.1, v) ∈ p := by
  induction p with
  | nil => exact fun _ h => absurd h List.not_mem_nil
  | cons hd tl ih =>
    obtain ⟨k, v⟩ := hd
    intro kv hkv
    -- either way the head of `metaOf` has the key `k` and its tail comes from `metaOf tl`
    have h : kv.1 = k ∨ kv ∈ metaOf tl := by
      simp only [metaOf] at hkv
      split at hkv <;> rcases List.mem_cons.mp hkv with rfl | h
      · exact .inl rfl
      · exact .inr (List.mem_filter.mp h).1
      · exact .inl rfl
      · exact .inr h
    rcases h with rfl | h
    · exact ⟨v, List.mem_cons_self⟩
    · obtain ⟨w, hw⟩ := ih kv h
      exact ⟨w, List.mem_cons_of_mem _ hw⟩

end Datadog

/-! non-vacuity -/
example : (Record.mk (2 ^ 128 - 1) (2 ^ 64 - 1) (2 ^ 63) 5 7 "n" [("k", "v")] [⟨"e", 9, []⟩]).WF := by
  unfold Record.WF; simp
example : Thrift.varint 300 = [172, 2] := by simp [Thrift.varint]
example : Thrift.zigzag64 (2 ^ 64 - 1) = 1 := by decide

end Fastrace
